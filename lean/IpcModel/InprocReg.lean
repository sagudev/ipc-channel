import IpcModel.GenInproc
import IpcModel.Lemmas.ListLookup
/-!
# The rendezvous registry of the in-process transport

`IpcOneShotServer::new` registers a fresh name, `accept` and (since the repair of D17) dropping the server unregister it,
`IpcSender::connect` looks the name up.  The model keeps, next to the registry, what *should* decide a connect — whether the
server with that name is still waiting (`live`) — and proves that the two coincide after every sequence of operations, for the
variant of the code the translator reads off the source; the pre-repair variant is kept to show what it did (panic with the
registry locked ⇒ every later operation panics; a dropped server stays reachable).
-/
namespace InprocReg
open Gen

structure Variant where
  connectChecked : Bool   -- lookup failure is an error (else: `unwrap` panics while the registry is locked)
  acceptUnregisters : Bool
  dropUnregisters : Bool
deriving Repr, DecidableEq

def codeVariant : Variant := ⟨inprocConnectChecked, inprocAcceptUnregisters, inprocDropUnregisters⟩
def fixed : Variant := ⟨true, true, true⟩
def legacy : Variant := ⟨false, true, false⟩

inductive Phase | live | accepted | dropped
deriving Repr, DecidableEq

structure St where
  phase : List Phase        -- server k has name k (names are assumed distinct: UUIDs)
  reg : List Nat            -- registered names
  poisoned : Bool           -- a panic happened while the registry was locked
deriving Repr, DecidableEq

inductive Op | new | connect (name : Nat) | accept (s : Nat) | dropServer (s : Nat)
deriving Repr, DecidableEq

inductive Res | server (s : Nat) | connected (s : Nat) | err | ok | invalid | panic
deriving Repr, DecidableEq

def step (V : Variant) (st : St) : Op → St × Res
  | .new =>
    if st.poisoned then (st, .panic)
    else ({ st with phase := st.phase ++ [.live], reg := st.reg ++ [st.phase.length] }, .server st.phase.length)
  | .connect name =>
    if st.poisoned then (st, .panic)
    else if st.reg.contains name then (st, .connected name)
    else if V.connectChecked then (st, .err)
    else ({ st with poisoned := true }, .panic)
  | .accept s =>
    -- issued when a client has connected and sent (it completes)
    if st.poisoned then (st, .panic)
    else match st.phase[s]? with
      | some .live => ({ st with phase := st.phase.set s .accepted, reg := if V.acceptUnregisters then st.reg.erase s else st.reg }, .ok)
      | _ => (st, .invalid)
  | .dropServer s =>
    match st.phase[s]? with
    | some .live => ({ st with phase := st.phase.set s .dropped, reg := if V.dropUnregisters then st.reg.erase s else st.reg }, .ok)
    | _ => (st, .invalid)

def run (V : Variant) (ops : List Op) : St × List Res :=
  ops.foldl (fun (acc : St × List Res) op => let r := step V acc.1 op; (r.1, acc.2 ++ [r.2])) (⟨[], [], false⟩, [])

/-- the registry holds exactly the names of the servers still waiting, each once; nothing ever panicked -/
def Inv (st : St) : Prop :=
  st.poisoned = false ∧ st.reg.Nodup ∧ ∀ n, n ∈ st.reg ↔ st.phase[n]? = some .live

theorem Inv.healthy {st : St} (h : Inv st) : st.poisoned = false := h.1
theorem Inv.mem_reg {st : St} (h : Inv st) (n : Nat) : n ∈ st.reg ↔ st.phase[n]? = some .live := h.2.2 n

theorem inv_init : Inv ⟨[], [], false⟩ := ⟨rfl, List.nodup_nil, fun n => by simp⟩

theorem step_new {V : Variant} {st : St} (hp : st.poisoned = false) :
    step V st .new = ({ st with phase := st.phase ++ [.live], reg := st.reg ++ [st.phase.length] }, .server st.phase.length) := by
  simp [step, hp]

theorem step_connect {st : St} (h : Inv st) (n : Nat) :
    step fixed st (.connect n) = (st, if st.phase[n]? = some .live then .connected n else .err) := by
  simp only [step, h.healthy, Bool.false_eq_true, if_false, List.contains_iff_mem, h.mem_reg n, fixed, if_true]
  split <;> rfl

theorem step_accept_live {st : St} {s : Nat} (hp : st.poisoned = false) (hl : st.phase[s]? = some .live) :
    step fixed st (.accept s) = ({ st with phase := st.phase.set s .accepted, reg := st.reg.erase s }, .ok) := by
  simp [step, hp, hl, fixed]

theorem step_drop_live {st : St} {s : Nat} (hl : st.phase[s]? = some .live) :
    step fixed st (.dropServer s) = ({ st with phase := st.phase.set s .dropped, reg := st.reg.erase s }, .ok) := by
  simp [step, hl, fixed]

theorem inv_new {st : St} (h : Inv st) : Inv { st with phase := st.phase ++ [.live], reg := st.reg ++ [st.phase.length] } := by
  obtain ⟨hp, hnd, hreg⟩ := h
  refine ⟨hp, ListLookup.nodup_concat.mpr ⟨hnd, fun h => Nat.lt_irrefl _ (ListLookup.lt_of_get ((hreg _).mp h))⟩, fun n => ?_⟩
  rw [List.mem_append, List.mem_singleton, hreg n, ListLookup.get_concat, and_iff_left rfl]

theorem inv_retire {st : St} (h : Inv st) (s : Nat) {ph : Phase} (hph : ph ≠ .live) :
    Inv { st with phase := st.phase.set s ph, reg := st.reg.erase s } := by
  obtain ⟨hp, hnd, hreg⟩ := h
  refine ⟨hp, hnd.erase s, fun n => ?_⟩
  rw [hnd.mem_erase_iff, hreg n, List.getElem?_set]
  by_cases hns : n = s
  · subst hns; simp [hph]
  · simp [hns, Ne.symm hns]

theorem step_inv {st : St} (h : Inv st) (op : Op) : Inv (step fixed st op).1 ∧ (step fixed st op).2 ≠ .panic := by
  cases op with
  | new => rw [step_new h.healthy]; exact ⟨inv_new h, nofun⟩
  | connect n => rw [step_connect h]; exact ⟨h, by split <;> nofun⟩
  | accept s =>
    simp only [step, if_neg (Bool.eq_false_iff.mp h.healthy)]
    split
    · exact ⟨inv_retire h s (by decide), nofun⟩
    · exact ⟨h, nofun⟩
  | dropServer s =>
    simp only [step]
    split
    · exact ⟨inv_retire h s (by decide), nofun⟩
    · exact ⟨h, nofun⟩

theorem run_spec (ops : List Op) : Inv (run fixed ops).1 ∧ Res.panic ∉ (run fixed ops).2 :=
  List.foldlRecOn ops _ (motive := fun (acc : St × List Res) => Inv acc.1 ∧ Res.panic ∉ acc.2) ⟨inv_init, by simp⟩
    fun acc h op _ => ⟨(step_inv h.1 op).1, by simp [h.2, (step_inv h.1 op).2.symm]⟩

theorem inv_run (ops : List Op) : Inv (run fixed ops).1 := (run_spec ops).1

theorem no_panic (ops : List Op) : Res.panic ∉ (run fixed ops).2 := (run_spec ops).2

/-- **what a connect answers, after any history**: it reaches server `n` exactly when that server is still waiting, and is an error
— never a panic — otherwise. -/
theorem connect_spec (ops : List Op) (n : Nat) :
    let st := (run fixed ops).1
    (step fixed st (.connect n)).2 = (if st.phase[n]? = some .live then .connected n else .err) ∧ (step fixed st (.connect n)).1 = st := by
  have := step_connect (inv_run ops) n
  exact ⟨congrArg Prod.snd this, congrArg Prod.fst this⟩

/-- nothing ever panics and nothing is left behind: when no server is waiting the registry is empty -/
theorem clean (ops : List Op) (h : ∀ n : Nat, (run fixed ops).1.phase[n]? ≠ some Phase.live) :
    (run fixed ops).1.reg = [] ∧ (run fixed ops).1.poisoned = false := by
  obtain ⟨hp, _, hreg⟩ := inv_run ops
  exact ⟨List.eq_nil_iff_forall_not_mem.mpr fun n hn => h n ((hreg n).mp hn), hp⟩

theorem code_variant : codeVariant = fixed ∧ inprocNewRegisters = true := by decide

/-- the pre-repair behaviour (D17): a connect to a name never handed out panics and every later operation panics too; a server
dropped unused can still be connected to -/
example : (run legacy [.new, .connect 7, .new, .connect 0]).2 = [.server 0, .panic, .panic, .panic] := by decide +kernel
example : (run legacy [.new, .dropServer 0, .connect 0]).2 = [.server 0, .ok, .connected 0] := by decide +kernel
example : (run fixed [.new, .connect 7, .new, .dropServer 0, .connect 0, .connect 1, .accept 1, .connect 1]).2
    = [.server 0, .err, .server 1, .ok, .err, .connected 1, .ok, .err] := by decide +kernel

end InprocReg
