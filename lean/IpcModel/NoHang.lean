import IpcModel.Gen
/-! C09 mid-send case: who keeps the dedicated socket's receiving end alive while the sender writes follow-ups.

The model: one fragmented send (`sendStep`), the receiver taking packets (`recvStep`) or going away (`receiverGone`), and the
three copies of the dedicated receive end, in the two variants of the sender.  In a variant that releases the sender's own copy a
send to a vanished receiver fails instead of blocking (`no_hang`); the variant that keeps it reaches a state where nothing is
enabled (`stuck`). -/
namespace NoHang

structure Variant where
  keepOwnRef : Bool     -- legacy: the sender holds its own descriptor of the dedicated receive end until send() returns

/-- the variant the translator reads from `OsIpcSender::send` -/
def codeVariant : Variant := ⟨Gen.vKeepOwnRef⟩

structure St where
  senderRef : Bool      -- sender's own copy of the dedicated rx
  flightRef : Bool      -- copy in flight inside the first packet, still in the channel queue
  recvRef : Bool        -- copy installed in the receiving process
  receiverExists : Bool -- the channel's receiving end exists (not dropped / process alive)
  dedLen : Nat          -- packets queued on the dedicated socket
  cap : Nat             -- its capacity (≥ 1)
  firstSent : Bool
  remaining : Nat       -- follow-ups still to send
deriving Repr, DecidableEq

def rxAlive (st : St) : Bool := st.senderRef || st.flightRef || st.recvRef

inductive Act | sendStep | recvStep | receiverGone
deriving Repr, DecidableEq

inductive Out | progressed | sendErr | done
deriving Repr, DecidableEq

/-- `none` = the thread is blocked / the action is not enabled -/
def step (V : Variant) (st : St) : Act → Option (St × Out)
  | .sendStep =>
    if !st.firstSent then
      if !st.receiverExists then some (st, .sendErr)     -- first sendmsg fails: EPIPE / ECONNRESET
      else some ({ st with firstSent := true, flightRef := true, senderRef := V.keepOwnRef }, .progressed)
    else if st.remaining = 0 then some ({ st with senderRef := false }, .done)
    else if !rxAlive st then some ({ st with senderRef := false }, .sendErr)    -- follow-up send fails: peer released
    else if st.dedLen < st.cap then some ({ st with dedLen := st.dedLen + 1, remaining := st.remaining - 1 }, .progressed)
    else none                                                                      -- blocks on a full socket
  | .recvStep =>
    if !st.receiverExists then none
    else if st.flightRef then some ({ st with flightRef := false, recvRef := true }, .progressed)
    else if st.recvRef && st.dedLen > 0 then some ({ st with dedLen := st.dedLen - 1 }, .progressed)
    else none
  | .receiverGone =>
    if st.receiverExists then some ({ st with receiverExists := false, flightRef := false, recvRef := false }, .progressed)
    else none

/-- consistency of the reference flags with who can hold them -/
def Inv (V : Variant) (st : St) : Prop :=
  (st.receiverExists = false → st.flightRef = false ∧ st.recvRef = false) ∧
  (V.keepOwnRef = false → st.firstSent = true → st.senderRef = false) ∧
  (st.firstSent = false → st.flightRef = false ∧ st.recvRef = false)

theorem Inv.noneWhenGone {V st} (hI : Inv V st) : st.receiverExists = false → st.flightRef = false ∧ st.recvRef = false := hI.1
theorem Inv.senderReleased {V st} (hI : Inv V st) : V.keepOwnRef = false → st.firstSent = true → st.senderRef = false := hI.2.1
theorem Inv.noneBeforeFirst {V st} (hI : Inv V st) : st.firstSent = false → st.flightRef = false ∧ st.recvRef = false := hI.2.2

theorem Inv.releaseSender {V st} (hI : Inv V st) : Inv V { st with senderRef := false } :=
  ⟨hI.noneWhenGone, fun _ _ => rfl, hI.noneBeforeFirst⟩

theorem Inv.sendFirst {V : Variant} {st : St} (hr : st.receiverExists = true) :
    Inv V { st with firstSent := true, flightRef := true, senderRef := V.keepOwnRef } :=
  ⟨(fun h => nomatch hr.symm.trans h), fun hV _ => hV, nofun⟩

theorem Inv.install {V st} (hI : Inv V st) (hr : st.receiverExists = true) (hf : st.flightRef = true) :
    Inv V { st with flightRef := false, recvRef := true } :=
  ⟨(fun h => nomatch hr.symm.trans h), hI.senderReleased, fun h => nomatch hf.symm.trans (hI.noneBeforeFirst h).1⟩

theorem Inv.gone {V st} (hI : Inv V st) : Inv V { st with receiverExists := false, flightRef := false, recvRef := false } :=
  ⟨fun _ => ⟨rfl, rfl⟩, hI.senderReleased, fun _ => ⟨rfl, rfl⟩⟩

theorem inv_step (V : Variant) (st st' : St) (a : Act) (o : Out) (hI : Inv V st) (h : step V st a = some (st', o)) : Inv V st' := by
  revert h
  -- `cases h` closes the arms that return `none`; the other eight come in the order in which `step` lists them.  Where only
  -- `dedLen` or `remaining` change, `Inv` of the result unfolds to `Inv` of `st`.
  fun_cases step V st a <;> intro h <;> cases h
  · exact hI                                              -- `sendStep`: the first fragment is refused
  next hr => exact Inv.sendFirst (by simpa using hr)      -- the first fragment goes out
  · exact hI.releaseSender                                -- all sent
  · exact hI.releaseSender                                -- a follow-up is refused
  · exact hI                                              -- a follow-up is queued
  next hr hf => exact hI.install (by simpa using hr) hf   -- `recvStep`: the first packet is taken
  · exact hI                                              -- a follow-up is taken
  · exact hI.gone                                         -- `receiverGone`

/-- With the sender's own copy released, nobody holds the dedicated receive end once the first fragment is out and the receiver
is gone: the send fails (or completes) instead of blocking. -/
theorem no_hang_of (V : Variant) (hV : V.keepOwnRef = false) (st : St) (hI : Inv V st) (hgone : st.receiverExists = false) :
    ∃ st' o, step V st .sendStep = some (st', o) := by
  -- `fun_cases` wants the action as a variable; `cases ha` then keeps the six arms of `sendStep`, of which five answer
  generalize ha : Act.sendStep = a
  fun_cases step V st a <;> cases ha
  iterate 5 exact ⟨_, _, rfl⟩
  -- the arm that blocks: the first fragment is out and somebody holds the receive end, which `Inv` excludes
  next hf _ hr _ => simp [rxAlive, hI.senderReleased hV (by simpa using hf), hI.noneWhenGone hgone] at hr

/-- **C09_no_hang** (repaired code) -/
theorem no_hang (st : St) (hI : Inv ⟨false⟩ st) (hgone : st.receiverExists = false) :
    ∃ st' o, step ⟨false⟩ st .sendStep = some (st', o) :=
  no_hang_of _ rfl st hI hgone

/-- legacy: a reachable state in which the sender is blocked forever (nothing is enabled) -/
def stuck : St := { senderRef := true, flightRef := false, recvRef := false, receiverExists := false, dedLen := 1, cap := 1, firstSent := true, remaining := 3 }
example : Inv ⟨true⟩ stuck := ⟨fun _ => ⟨rfl, rfl⟩, nofun, nofun⟩
example : step ⟨true⟩ stuck .sendStep = none ∧ step ⟨true⟩ stuck .recvStep = none ∧ step ⟨true⟩ stuck .receiverGone = none := by decide
/-- and it is reached: first fragment, one follow-up fills the socket, receiver goes away -/
def start : St := { senderRef := false, flightRef := false, recvRef := false, receiverExists := true, dedLen := 0, cap := 1, firstSent := false, remaining := 4 }
example : (do let (s1, _) ← step ⟨true⟩ start .sendStep
              let (s2, _) ← step ⟨true⟩ s1 .sendStep
              let (s3, _) ← step ⟨true⟩ s2 .receiverGone
              pure s3) = some stuck := by decide

end NoHang
