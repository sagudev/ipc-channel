/-! C20: the async routing thread (asynch.rs) as a pure processor of select() batches. -/
namespace Async

inductive Ev
  | msg (id tag : Nat)      -- message on member `id` (id 0 = wake-up channel)
  | closed (id : Nat)
deriving Repr, DecidableEq

structure Stream where
  buf : List Nat            -- messages forwarded so far (futures mpsc queue, FIFO)
  ended : Bool              -- forwarding sender dropped ⇒ end-of-stream after the buffer
deriving Repr, DecidableEq

structure St where
  senders : List (Nat × Nat)     -- receiver-set id ↦ stream index
  nextId : Nat                   -- next id the receiver set will hand out (0 was the wake-up channel)
  pending : List Nat             -- routes offered through `add_route` and not yet registered (stream indices)
  streams : List Stream
deriving Repr

def lookup (h : List (Nat × Nat)) (id : Nat) : Option Nat := (h.find? (fun x => decide (x.1 = id))).map (·.2)

def push (ss : List Stream) (s tag : Nat) : List Stream := ss.modify s fun x => { x with buf := x.buf ++ [tag] }
def finish (ss : List Stream) (s : Nat) : List Stream := ss.modify s fun x => { x with ended := true }

def onEv (st : St) : Ev → St
  | .msg id tag => match lookup st.senders id with
    | some s => { st with streams := push st.streams s tag }
    | none => st                                            -- wake-up messages and unknown ids are ignored
  | .closed id => match lookup st.senders id with
    | some s => { st with senders := st.senders.filter (fun x => decide (x.1 ≠ id)), streams := finish st.streams s }
    | none => st

/-- after every batch the newly offered routes are registered -/
def drain (st : St) : St :=
  st.pending.foldl (fun st s => { st with senders := st.senders ++ [(st.nextId, s)], nextId := st.nextId + 1 }) { st with pending := [] }

def batch (st : St) (evs : List Ev) : St := drain (evs.foldl onEv st)

/-- the receiver-set member an event is about -/
abbrev Ev.id : Ev → Nat
  | .msg i _ => i
  | .closed i => i

/-- what an event does to the stream it is forwarded to -/
def Ev.eff : Ev → Stream → Stream
  | .msg _ t => fun x => { x with buf := x.buf ++ [t] }
  | .closed _ => fun x => { x with ended := true }

theorem onEv_of_none {st : St} {e : Ev} (h : lookup st.senders e.id = none) : onEv st e = st := by
  cases e <;> simp only [onEv, h]

theorem streams_onEv (st : St) (e : Ev) (s : Nat) :
    (onEv st e).streams[s]? = if lookup st.senders e.id = some s then st.streams[s]?.map e.eff else st.streams[s]? := by
  cases h : lookup st.senders e.id with
  | none => rw [onEv_of_none h, if_neg nofun]
  | some s' =>
    have : (onEv st e).streams = st.streams.modify s' e.eff := by
      cases e <;> simp only [onEv, h] <;> rfl
    rw [this, List.getElem?_modify]
    by_cases hs : s' = s <;> simp [hs]

/-- a message for a registered id goes to exactly that id's stream, appended once, nothing else changes -/
theorem msg_forward (st : St) (id tag s : Nat) (h : lookup st.senders id = some s) :
    (onEv st (.msg id tag)).streams = push st.streams s tag ∧ (onEv st (.msg id tag)).senders = st.senders := by
  simp [onEv, h]

theorem push_other (ss : List Stream) (s s' tag : Nat) (hne : s' ≠ s) : (push ss s tag)[s']? = ss[s']? :=
  List.getElem?_modify_ne _ _ hne.symm

theorem push_self (ss : List Stream) (s tag : Nat) (x : Stream) (h : ss[s]? = some x) :
    (push ss s tag)[s]? = some { x with buf := x.buf ++ [tag] } := by
  rw [push, List.getElem?_modify_eq, h]; rfl

/-- **C20_isolation**: forwarding to one stream leaves every other stream untouched -/
theorem isolation (st : St) (id tag s s' : Nat) (h : lookup st.senders id = some s) (hne : s' ≠ s) :
    (onEv st (.msg id tag)).streams[s']? = st.streams[s']? := by
  rw [streams_onEv, if_neg (h ▸ fun e => hne (Option.some.inj e).symm)]

/-- the closure of its own id ends a stream, which keeps its buffer (that no event for another id touches it is `streams_onEv`) -/
theorem closed_ends (st : St) (id s : Nat) (x : Stream) (h : lookup st.senders id = some s) (hx : st.streams[s]? = some x) :
    (onEv st (.closed id)).streams[s]? = some { x with ended := true } := by
  rw [streams_onEv, if_pos h, hx]; rfl

/-- wake-up messages (id not registered) change nothing -/
theorem unknown_ignored (st : St) (id tag : Nat) (h : lookup st.senders id = none) : onEv st (.msg id tag) = st :=
  onEv_of_none h

/-! ### closed system for the correspondence check: channels, client operations, router iterations -/
structure Chan where
  queue : List Nat          -- sent and not yet reported by select()
  senders : Nat             -- live sender handles
  closedReported : Bool
  route : Option Nat        -- receiver-set id once the routing thread registered it
  stream : Option Nat       -- stream index once `to_stream` was called
deriving Repr

structure Sys where
  chans : List Chan
  r : St
deriving Repr

inductive Op | new | send (c t : Nat) | dropsnd (c : Nat) | tostream (c : Nat)
deriving Repr

def Sys.init : Sys := ⟨[], ⟨[], 1, [], []⟩⟩

def client (y : Sys) : Op → Sys
  | .new => { y with chans := y.chans ++ [⟨[], 1, false, none, none⟩] }
  | .send c t => { y with chans := y.chans.modify c fun ch => if ch.senders = 0 then ch else { ch with queue := ch.queue ++ [t] } }
  | .dropsnd c => { y with chans := y.chans.modify c fun ch => { ch with senders := 0 } }
  | .tostream c =>
    let s := y.r.streams.length
    { chans := y.chans.modify c fun ch => { ch with stream := some s },
      r := { y.r with streams := y.r.streams ++ [⟨[], false⟩], pending := y.r.pending ++ [s] } }

/-- the events a (maximal) select() batch reports for one registered member: its queued messages in order, then the closure -/
def chanEvents (ch : Chan) : List Ev :=
  match ch.route with
  | none => []
  | some id => ch.queue.map (Ev.msg id) ++ (if ch.senders = 0 ∧ !ch.closedReported then [Ev.closed id] else [])

/-- one iteration of the routing thread: a maximal batch, then registration of the routes offered meanwhile -/
def iter (y : Sys) : Sys :=
  let evs := y.chans.flatMap chanEvents
  let chans := y.chans.map fun ch => match ch.route with
    | none => ch
    | some _ => { ch with queue := [], closedReported := ch.closedReported || decide (ch.senders = 0) }
  let r := batch y.r evs
  let chans := chans.map fun ch => match ch.route, ch.stream with
    | none, some s => { ch with route := (r.senders.find? fun x => decide (x.2 = s)).map (·.1) }
    | _, _ => ch
  ⟨chans, r⟩

def script (ops : List Op) : Sys :=
  let y := ops.foldl (fun y op => iter (iter (client y op))) Sys.init
  iter (iter y)

end Async
