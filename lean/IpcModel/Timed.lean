import IpcModel.GenTimed
/-! C10: the three receive modes of `UnixCmsg::recv` over a kernel socket with an O_NONBLOCK flag.

The kernel socket carries *first packets*; each stands for a message (`tag`) whose follow-up fragments are either all
queued on the message's dedicated socket already (`complete = true`: the send has returned, or at least transmitted
everything) or not yet (`complete = false`: a sender is in the middle of the send).  Follow-ups are always read in
blocking mode, whatever the mode of the call, so a started message is waited for (`Res.waitsSender`).

`call` returns, next to the result and the new kernel state, the system calls issued on the channel's descriptor; the
harness compares them with the interposed trace of the real crate.

Proofs: `recvFirstR_spec` reduces the three modes to `recvmsg`, whose answer table (`recvmsg_cons`, `recvmsg_nil`) computes only on a
destructured `k`; what holds for every mode follows from the facts about `recvmsg` without looking into `k`. -/
namespace Timed

inductive Mode | blocking | nonblocking | timeout (micros : Nat)
deriving Repr, DecidableEq

structure K where
  queue : List (Nat × Bool)   -- first packets queued: (message tag, all follow-up fragments already queued)
  peerAlive : Bool            -- some sender handle exists
  nonblock : Bool             -- O_NONBLOCK of the open file description
deriving Repr, DecidableEq

inductive Res
  | msg (t : Nat) | empty | disconnected
  | blocks                    -- waits on the channel socket
  | waitsSender (t : Nat)     -- first fragment taken, waits (blocking) for the sender to finish message `t`
deriving Repr, DecidableEq

inductive Sys | setNB | clearNB | poll (ms : Int) | recvmsg
deriving Repr, DecidableEq

/-- one recvmsg(2) on the channel socket (followed by the blocking reassembly of `recv`).  `race`: the kernel looks at the queue
first and at the peer's shutdown afterwards; a peer that queues a packet and closes in between makes it report end of
file although a packet is queued — possible only once no sender is left -/
def kernelRecv (k : K) (race : Bool) : Res × K :=
  match k.queue with
  | (t, c) :: q =>
    if race && !k.peerAlive then (.disconnected, k)
    else (if c then .msg t else .waitsSender t, { k with queue := q })
  | [] => if !k.peerAlive then (.disconnected, k)        -- returns 0
          else if k.nonblock then (.empty, k)            -- EAGAIN
          else (.blocks, k)

/-- the answer without the race (what the rest of the file calls "the kernel's recvmsg") -/
def recvmsg (k : K) : Res × K := kernelRecv k false

/-- `confirm` (read from the source: `Gen.shape_eofConfirmed`): after an end of file the code looks at the queue once more,
without blocking.  The second look cannot be overtaken — the shutdown is visible already, nothing more can arrive. -/
def recvConfirmed (confirm : Bool) (k : K) (race : Bool) : List Sys × Res × K :=
  match kernelRecv k race with
  | (.disconnected, k1) =>
    if confirm then
      match kernelRecv k1 false with
      | (.msg t, k2) => ([.recvmsg, .recvmsg], .msg t, k2)
      | (.waitsSender t, k2) => ([.recvmsg, .recvmsg], .waitsSender t, k2)
      | (_, k2) => ([.recvmsg, .recvmsg], .disconnected, k2)
    else ([.recvmsg], .disconnected, k1)
  | (r, k1) => ([.recvmsg], r, k1)

/-- the argument handed to poll(2) for a `Duration` of `micros` microseconds, regenerated from the source:
`duration.as_<unit>().try_into().unwrap_or(-1)` with a C `int` target -/
def pollArg (micros : Nat) : Int :=
  let v := micros * Gen.pollUnitMul / Gen.pollUnitDiv
  if v < 2 ^ 31 then (v : Int) else -1

/-- one receive call in mode `m`: the system calls made, the result, the new kernel state.  `confirm` and `race` are those of
`recvConfirmed`; `pollTimedOut` is the kernel's answer to poll(): it may say "timed out" only if nothing was ready for the whole
wait (`pollConsistent`) -/
def callV (confirm : Bool) (k : K) (m : Mode) (pollTimedOut : Bool) (race : Bool) : List Sys × Res × K :=
  match m with
  | .blocking => recvConfirmed confirm k race
  | .nonblocking =>
    let k1 := { k with nonblock := true }                 -- fcntl(F_SETFL, O_NONBLOCK)
    let (tr, r, k2) := recvConfirmed confirm k1 race
    ([.setNB] ++ tr ++ [.clearNB], r, { k2 with nonblock := false })   -- fcntl(F_SETFL, 0) on every outcome
  | .timeout us =>
    if pollTimedOut then ([.poll (pollArg us)], .empty, k)              -- Errno(EAGAIN)
    else let (tr, r, k') := recvConfirmed confirm k race; (.poll (pollArg us) :: tr, r, k')

/-- the variant the source has -/
def call (k : K) (m : Mode) (pollTimedOut : Bool) (race : Bool := false) : List Sys × Res × K :=
  callV Gen.shape_eofConfirmed k m pollTimedOut race

/-- result and new state in the repaired variant (end of file confirmed); `R`: the `race` is an argument, `recvFirst` is without it -/
def recvFirstR (k : K) (m : Mode) (pollTimedOut : Bool) (race : Bool) : Res × K := (callV true k m pollTimedOut race).2
def recvFirst (k : K) (m : Mode) (pollTimedOut : Bool) : Res × K := recvFirstR k m pollTimedOut false

def pollConsistent (k : K) (pollTimedOut : Bool) : Prop := pollTimedOut = true → k.queue = [] ∧ k.peerAlive = true

@[simp] theorem recvmsg_cons (t : Nat) (c : Bool) (q : List (Nat × Bool)) (alive nonblock : Bool) :
    recvmsg ⟨(t, c) :: q, alive, nonblock⟩ = (if c then .msg t else .waitsSender t, ⟨q, alive, nonblock⟩) := rfl

@[simp] theorem recvmsg_nil (alive nonblock : Bool) :
    recvmsg ⟨[], alive, nonblock⟩ = (if !alive then .disconnected else if nonblock then .empty else .blocks, ⟨[], alive, nonblock⟩) := by
  cases alive <;> cases nonblock <;> rfl

theorem recvmsg_snd (k : K) : (recvmsg k).2 = { k with queue := k.queue.tail } := by
  obtain ⟨_ | ⟨⟨t, c⟩, q⟩, alive, nonblock⟩ := k <;> simp

theorem recvmsg_disconnected (k : K) (h : (recvmsg k).1 = .disconnected) : k.queue = [] ∧ k.peerAlive = false := by
  obtain ⟨_ | ⟨⟨t, c⟩, q⟩, alive, nonblock⟩ := k
  · cases alive <;> cases nonblock <;> simp at h ⊢
  · cases c <;> simp at h

/-- the repaired receive answers exactly like the race-free kernel, whatever the race does -/
theorem recvConfirmed_true (k : K) (race : Bool) :
    recvConfirmed true k race =
      (.recvmsg :: if (kernelRecv k race).1 = .disconnected then [.recvmsg] else [], recvmsg k) := by
  obtain ⟨_ | ⟨⟨t, c⟩, q⟩, alive, nonblock⟩ := k
  · cases alive <;> cases nonblock <;> rfl
  · cases race <;> cases alive <;> cases c <;> rfl

theorem recvFirstR_spec (k : K) (m : Mode) (b race : Bool) :
    recvFirstR k m b race = match m with
      | .blocking => recvmsg k
      | .nonblocking => ((recvmsg { k with nonblock := true }).1, { (recvmsg { k with nonblock := true }).2 with nonblock := false })
      | .timeout _ => if b then (.empty, k) else recvmsg k := by
  cases m <;> simp only [recvFirstR, callV, recvConfirmed_true]
  cases b <;> rfl

/-- **C10_flag**: whatever the mode and outcome, the description is left in blocking mode -/
theorem flag_restored (k : K) (m : Mode) (b : Bool) (h : k.nonblock = false) : (recvFirst k m b).2.nonblock = false := by
  cases m <;> simp only [recvFirst, recvFirstR_spec]
  · rwa [recvmsg_snd]
  · split
    · exact h
    · rwa [recvmsg_snd]

/-- **C10_try**: `try_recv` never waits on the channel socket, and for a sender only when that sender is in the middle of the head
message; otherwise it answers what is there -/
theorem try_outcome (k : K) (b : Bool) :
    (recvFirst k .nonblocking b).1 ≠ .blocks ∧
    (∀ t q, k.queue = (t, true) :: q → (recvFirst k .nonblocking b).1 = .msg t) ∧
    (k.queue = [] → k.peerAlive = true → (recvFirst k .nonblocking b).1 = .empty) ∧
    (k.queue = [] → k.peerAlive = false → (recvFirst k .nonblocking b).1 = .disconnected) ∧
    (∀ t, (recvFirst k .nonblocking b).1 = .waitsSender t → ∃ q, k.queue = (t, false) :: q) := by
  obtain ⟨_ | ⟨⟨t', c⟩, q⟩, alive, nonblock⟩ := k
  · cases alive <;> simp [recvFirst, recvFirstR_spec]
  · cases c <;> simp [recvFirst, recvFirstR_spec]

/-- **C10_timeout**: `empty` only when poll timed out (so nothing was there for the whole wait); a message or closure present is returned -/
theorem timeout_outcome (k : K) (us : Nat) (b : Bool) (hk : k.nonblock = false) (hc : pollConsistent k b) :
    ((recvFirst k (.timeout us) b).1 = .empty → b = true) ∧
    (∀ t q, k.queue = (t, true) :: q → (recvFirst k (.timeout us) b).1 = .msg t) ∧
    (k.queue = [] → k.peerAlive = false → (recvFirst k (.timeout us) b).1 = .disconnected) := by
  cases b
  · obtain ⟨_ | ⟨⟨t', c⟩, q⟩, alive, nonblock⟩ := k <;> cases hk
    · cases alive <;> simp [recvFirst, recvFirstR_spec]
    · cases c <;> simp [recvFirst, recvFirstR_spec]
  · obtain ⟨hq, hp⟩ := hc rfl
    simp [hq, hp]

theorem flag_after_calls (k : K) (calls : List (Mode × Bool)) (h : k.nonblock = false) :
    (calls.foldl (fun k c => (recvFirst k c.1 c.2).2) k).nonblock = false :=
  List.foldlRecOn calls _ (motive := fun k => k.nonblock = false) h fun k h c _ => flag_restored k c.1 c.2 h

/-- **C10_no_poison** -/
theorem later_blocking_blocks (k : K) (calls : List (Mode × Bool)) (h : k.nonblock = false) :
    let k' := calls.foldl (fun k c => (recvFirst k c.1 c.2).2) k
    k'.queue = [] → k'.peerAlive = true → (recvFirst k' .blocking false).1 = .blocks := by
  intro k' hq hp
  have hn : k'.nonblock = false := flag_after_calls k calls h
  obtain ⟨q, alive, nonblock⟩ := k'
  cases hq; cases hp; cases hn
  rfl

/-- the message a result accounts for: delivered, or taken off the queue and being waited for -/
def tagOf : Res → List Nat
  | .msg t => [t] | .waitsSender t => [t] | _ => []

theorem recvmsg_conserves (k : K) : tagOf (recvmsg k).1 ++ (recvmsg k).2.queue.map Prod.fst = k.queue.map Prod.fst := by
  obtain ⟨_ | ⟨⟨t, c⟩, q⟩, alive, nonblock⟩ := k
  · cases alive <;> cases nonblock <;> rfl
  · cases c <;> rfl

theorem trace_shape (k : K) (m : Mode) (b race : Bool) :
    (callV true k m b race).1 =
      let rc (k : K) : List Sys := .recvmsg :: if (kernelRecv k race).1 = .disconnected then [.recvmsg] else []
      match m with
      | .blocking => rc k
      | .nonblocking => .setNB :: rc { k with nonblock := true } ++ [.clearNB]
      | .timeout us => .poll (pollArg us) :: if b then [] else rc k := by
  cases m <;> simp only [callV, recvConfirmed_true]
  · rfl
  · cases b <;> rfl

/-- **no early end of file** (`C10_no_early_eof`) -/
theorem disconnected_only_when_drained (k : K) (m : Mode) (b race : Bool) (h : (recvFirstR k m b race).1 = .disconnected) :
    k.queue = [] ∧ k.peerAlive = false := by
  cases m <;> simp only [recvFirstR_spec] at h
  · exact recvmsg_disconnected k h
  · exact recvmsg_disconnected { k with nonblock := true } h
  · split at h
    · cases h
    · exact recvmsg_disconnected k h

/-- the variant without the confirming look: in the race window a queued message is overtaken by `disconnected` -/
example : (callV false ⟨[(7, true)], false, false⟩ .nonblocking false true).2.1 = .disconnected := by decide
example : (callV true ⟨[(7, true)], false, false⟩ .nonblocking false true).2.1 = .msg 7 := by decide

theorem pollArg_granularity (us : Nat) (hmul : Gen.pollUnitMul = 1) (hdiv : Gen.pollUnitDiv = 1000) :
    pollArg us = -1 ∨ (0 ≤ pollArg us ∧ pollArg us * 1000 ≤ (us : Int) ∧ (us : Int) < (pollArg us + 1) * 1000) := by
  simp only [pollArg, hmul, hdiv, Nat.mul_one]
  split
  · exact .inr (by omega)
  · exact .inl rfl

end Timed
