import IpcModel.Interleave.Core
/-! `step` as a relation, runs, the initial state and the classes of a message's state the theorems speak of.  Nothing here depends
on the invariants: `Att` and the prefix property of the first-packet order need no more. -/
namespace IM

/-- `step` read backwards: which message an action rewrites, by which per-message function, and what else changes. -/
inductive Step (st : St) : Act → St → Prop
  | send {t m x x' sd} (hc : curMsg st t = some m) (hm : st.msgs[m]? = some x) (hs : sMsg st.sys x = some (x', sd)) :
      Step st (.s t) (applySender st t m x' sd)
  | fault {t m x x' sd} (hc : curMsg st t = some m) (hm : st.msgs[m]? = some x) (hs : fMsg st.sys x = some (x', sd)) :
      Step st (.f t) (applySender st t m x' sd)
  | fatal {t m x x'} (hc : curMsg st t = some m) (hm : st.msgs[m]? = some x) (hp : x.phase ≠ .todo) (hk : killMsg x = some x') :
      Step st (.x t) (applySender st t m x' ⟨false, true⟩)
  | crash {t m x x'} (hc : curMsg st t = some m) (hm : st.msgs[m]? = some x) (hk : killMsg x = some x') :
      Step st (.crash t) { st with msgs := st.msgs.set m x', threads := st.threads.set t [] }
  | pop {m q x x' done} (hcur : st.cur = none) (hq : st.mainq = m :: q) (hm : st.msgs[m]? = some x) (hp : rPop x = some (x', done)) :
      Step st .r { st with msgs := st.msgs.set m x', mainq := q, cur := if done then none else some m }
  | asm {m x x' done} (hcur : st.cur = some m) (hm : st.msgs[m]? = some x) (hp : rAsm st.sys x = some (x', done)) :
      Step st .r { st with msgs := st.msgs.set m x', cur := if done then none else some m }

theorem Step.of_step {st st' : St} {a : Act} : step st a = some st' → Step st a st' := by
  -- `cases h` closes the `none` arms; the six left come in `step`'s order
  fun_cases step st a <;> intro h <;> cases h
  · exact .send ‹_› ‹_› ‹_›
  · exact .fault ‹_› ‹_› ‹_›
  · exact .fatal ‹_› ‹_› ‹_› ‹_›
  · exact .crash ‹_› ‹_› ‹_›
  · exact .pop ‹_› ‹_› ‹_› ‹_›
  · exact .asm ‹_› ‹_› ‹_›

def run : St → List Act → Option St
  | st, [] => some st
  | st, a :: as => match step st a with | some st' => run st' as | none => none

theorem run_induction {P : St → Prop} (hstep : ∀ st st' a, P st → step st a = some st' → P st') {st st' : St} {as : List Act}
    (h0 : P st) (h : run st as = some st') : P st' := by
  induction as generalizing st with
  | nil => cases h; exact h0
  | cons a as ih =>
    simp only [run] at h
    split at h
    · rename_i st1 h1; exact ih (hstep _ _ _ h0 h1) h
    · cases h

def init (sys : Nat) (lens : List Nat) (threads : List (List Nat)) : St :=
  { sys, msgs := lens.map (fun l => ⟨l, .todo, none, [], false, .none⟩), threads, mainq := [], cur := none, firstOrder := [] }

theorem init_msgs {sys : Nat} {lens : List Nat} {threads : List (List Nat)} {m : Nat} {x : M}
    (hm : (init sys lens threads).msgs[m]? = some x) : ∃ l, x = ⟨l, .todo, none, [], false, .none⟩ := by
  simp only [init, List.getElem?_map, Option.map_eq_some_iff] at hm
  obtain ⟨l, _, rfl⟩ := hm; exact ⟨l, rfl⟩

def consumed (x : M) : Bool := match x.rs with | .delivered _ | .discarded | .corrupt => true | _ => false
def isAsm (x : M) : Bool := match x.rs with | .asm _ => true | _ => false
/-- the message's `send` has returned, with `Ok` or an error (or its sender is dead) -/
def finished (x : M) : Prop := x.phase = .ok ∨ x.phase = .failed

end IM
