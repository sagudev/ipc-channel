import IpcModel.Interleave.Order
/-! Happened-before.  `firstOrder` only grows at its end, and a message whose send has returned is either in it already or, if the
send failed before the first packet, never touched again; a message whose send has not begun is not in it yet.  So if both get
there, the first is in front. -/
namespace IM
open ListLookup

theorem firstOrder_prefix (st st' : St) (a : Act) (h : step st a = some st') : st.firstOrder <+: st'.firstOrder := by
  have hs : ∀ t m x' sd, st.firstOrder <+: (applySender st t m x' sd).firstOrder := fun t m x' sd => by
    simp only [applySender]; split
    · exact List.prefix_append ..
    · exact List.prefix_refl _
  cases Step.of_step h with
  | send | fault | fatal => exact hs ..
  | crash | pop | asm => exact List.prefix_refl _

theorem firstOrder_prefix_run (st st' : St) (as : List Act) (h : run st as = some st') : st.firstOrder <+: st'.firstOrder :=
  run_induction (P := fun s => st.firstOrder <+: s.firstOrder) (fun s s' a hP h => hP.trans (firstOrder_prefix s s' a h))
    (List.prefix_refl _) h

theorem finished_none_stable (st st' : St) (act : Act) (a : Nat) (x : M) (hS : SInv st)
    (h : step st act = some st') (ha : st.msgs[a]? = some x) (hfin : finished x) (hrs : x.rs = .none) :
    st'.msgs[a]? = some x := by
  -- the step rewrites one message `y`, on which its function is enabled: that is not `x`
  have key : ∀ {m : Nat} {y : M} (y' : M), st.msgs[m]? = some y → y ≠ x → (st.msgs.set m y')[a]? = some x := by
    intro m y y' hm hne
    have hma : a ≠ m := fun e => hne (Option.some.inj ((e ▸ hm).symm.trans ha))
    exact get_set.mpr (.inr ⟨hma, ha⟩)
  cases hS.good ha with
  | failed0 =>
    -- on this shape none of the five functions is enabled
    cases Step.of_step h with
    | send _ hm hp | fault _ hm hp | fatal _ hm _ hp | crash _ hm hp | pop _ _ hm hp | asm _ hm hp =>
      exact key _ hm fun e => by rw [e] at hp; cases hp
  | ok1 hr => rcases hr with rfl | rfl <;> cases hrs
  | flight _ _ _ _ _ hr => cases hrs; cases hr
  | _ => rcases hfin with h | h <;> cases h

theorem finished_none_stable_run (st st' : St) (as : List Act) (a : Nat) (x : M) (hS : SInv st)
    (h : run st as = some st') (ha : st.msgs[a]? = some x) (hfin : finished x) (hrs : x.rs = .none) :
    st'.msgs[a]? = some x := by
  refine (run_induction (P := fun s => SInv s ∧ s.msgs[a]? = some x) (fun s s' act hP h => ?_) ⟨hS, ha⟩ h).2
  exact ⟨sinv_step s s' act hP.1 h, finished_none_stable s s' act a x hP.1 h hP.2 hfin hrs⟩

/-- **happened-before**: if at some point of the execution a's send has returned and b's send has not begun,
    and later both have their first packet on the channel, then a's precedes b's. -/
theorem happened_before (sys : Nat) (lens : List Nat) (threads : List (List Nat)) (hsys : 1000 ≤ sys)
    (as₁ as₂ : List Act) (st₁ st₂ : St)
    (h₁ : run (init sys lens threads) as₁ = some st₁) (h₂ : run st₁ as₂ = some st₂)
    (a b : Nat) (xa xb : M) (ha : st₁.msgs[a]? = some xa) (hb : st₁.msgs[b]? = some xb)
    (hfin : finished xa) (htodo : xb.phase = .todo)
    (ha₂ : a ∈ st₂.firstOrder) (hb₂ : b ∈ st₂.firstOrder) :
    ∃ l₁ l₂ l₃, st₂.firstOrder = l₁ ++ a :: l₂ ++ b :: l₃ := by
  obtain ⟨hS, hO⟩ := inv_run _ _ as₁ (sinv_init sys lens threads hsys) (oinv_init sys lens threads) h₁
  have hb₁ : b ∉ st₁.firstOrder := fun hin => (hO.mem_iff hb).mp hin ((hS.good hb).started.1 htodo)
  -- else `a` is never touched again: not in the order at `st₂` either
  have ha₁ : a ∈ st₁.firstOrder := Decidable.byContradiction fun hin => by
    have hrs : xa.rs = .none := Decidable.of_not_not (mt (hO.mem_iff ha).mpr hin)
    have hst := finished_none_stable_run st₁ st₂ as₂ a xa hS h₂ ha hfin hrs
    exact ((inv_run _ _ as₂ hS hO h₂).2.mem_iff hst).mp ha₂ hrs
  obtain ⟨rest, hrest⟩ := firstOrder_prefix_run st₁ st₂ as₂ h₂
  have hbr : b ∈ rest := (List.mem_append.mp (hrest ▸ hb₂)).resolve_left hb₁
  obtain ⟨p, q, hpq⟩ := List.append_of_mem ha₁
  obtain ⟨u, v, huv⟩ := List.append_of_mem hbr
  refine ⟨p, q ++ u, v, ?_⟩
  rw [← hrest, hpq, huv]; simp [List.append_assoc]

end IM
