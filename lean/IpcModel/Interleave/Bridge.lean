import IpcModel.Interleave.Core
import IpcModel.Lemmas.Arith
/-! The interleaving model uses closed forms of the packet-capacity functions; these lemmas, re-proved on every run, tie
them to the definitions *generated* from the Rust source. -/
namespace IM

theorem fs_is_gen (sb : Nat) : fs sb = Gen.fragmentSize sb := rfl

theorem ffs_is_gen (sb : Nat) (h : sb < 2^64) : ffs sb = Gen.firstFragmentSize sb :=
  (Arith.mask8 (fs sb - 8) (Nat.lt_of_le_of_lt (Nat.le_trans (Nat.sub_le ..) (Nat.sub_le ..)) h)).symm

theorem downsize_is_gen (sb n : Nat) : downsize sb n = Gen.downsize sb n := rfl

theorem endPos_is_gen (len pos sb : Nat) (h : sb < 2^64) :
    endPos len pos sb = if pos = 0 then Gen.endFirst sb else Gen.endFollow len pos sb := by
  unfold endPos Gen.endFirst Gen.endFollow
  rw [ffs_is_gen sb h, fs_is_gen]

theorem single_is_gen (sys len : Nat) (h : sys < 2^64) : decide (len ≤ ffs sys) = Gen.singleTest sys len := by
  unfold Gen.singleTest; rw [ffs_is_gen sys h]

theorem want_is_gen (sys len got : Nat) (h : got ≤ len) :
    min (fs sys) (len - got) = Gen.recvEnd sys got len - got := by
  rw [Gen.recvEnd, ← Nat.sub_min_sub_right, Nat.add_sub_cancel_left]; rfl

end IM
