import IpcModel.Interleave.Step
import IpcModel.RecvAtt
/-!
Attachments under every interleaving (C02 / C12): the interleaving model `IM` carries payload ranges only.  Here each message
`m` is given descriptors `atts m` (they travel in the control message of its first packet); the receiver's steps of an `IM`
execution are projected to the events `RecvAtt` speaks about, and fed to the attachment-vector machine of `recv`.
-/
namespace IM
open RecvAtt (Ev RS feed feedAll)

/-- what a step means for the receiver's `recv` -/
inductive ROut
  | nothing
  | first (m : Nat) (complete : Bool)        -- the first packet of message m was taken from the channel
  | finished (m : Nat) (delivered : Bool)    -- the assembly of m ended: delivered, or given up (truncated)
deriving Repr, DecidableEq

def rout (st : St) : Act → ROut
  | .r =>
    match st.cur with
    | none =>
      match st.mainq with
      | m :: _ =>
        match st.msgs[m]? with
        | some x => match rPop x with | some (_, done) => .first m done | none => .nothing
        | none => .nothing
      | [] => .nothing
    | some m =>
      match st.msgs[m]? with
      | some x =>
        match rAsm st.sys x with
        | some (x', true) => .finished m (match x'.rs with | .delivered _ => true | _ => false)
        | _ => .nothing
      | none => .nothing
  | _ => .nothing

def evOf (atts : Nat → List Nat) : ROut → List Ev
  | .nothing => []
  | .first m c => [.first (atts m) c]
  | .finished _ true => [.assembled]
  | .finished _ false => [.truncated]

/-- messages handed to the caller of `recv` by this step -/
def delivOf : ROut → List Nat
  | .first m true => [m]
  | .finished m true => [m]
  | _ => []

/-- the receiver-side meaning of an execution (as far as it is executable) -/
def routs : St → List Act → List ROut
  | _, [] => []
  | st, a :: as => match step st a with | some st' => rout st a :: routs st' as | none => []

theorem applySender_cur (st : St) (t m : Nat) (x' : M) (sd : Side) : (applySender st t m x' sd).cur = st.cur := rfl

theorem cur_step {st st' : St} {a : Act} (h : step st a = some st') :
    match rout st a with
    | .nothing => st'.cur = st.cur
    | .first m c => st.cur = none ∧ st'.cur = if c then none else some m
    | .finished m _ => st.cur = some m ∧ st'.cur = none := by
  cases Step.of_step h with
  | pop hcur hq hm hp => simp only [rout, hcur, hq, hm, hp]; trivial
  | @asm _ _ _ done hcur hm hp => cases done <;> simp only [rout, hcur, hm, hp] <;> trivial
  | _ => exact rfl

/-- the variant of `recv` the translator reads from the source -/
theorem codeCfg_eq : RecvAtt.codeCfg = ⟨true, true⟩ := by decide

/-- between two messages the vectors are empty, and `pend` holds the descriptors of the message in assembly -/
theorem att_step (atts : Nat → List Nat) {st st' : St} {a : Act} (h : step st a = some st') {s : RS}
    (hacc : s.acc = []) (hp : s.pend = st.cur.map atts) :
    feedAll RecvAtt.codeCfg s (evOf atts (rout st a)) = ⟨[], st'.cur.map atts, s.out ++ (delivOf (rout st a)).map atts⟩ := by
  have hcur := cur_step h
  obtain ⟨acc, pend, out⟩ := s
  dsimp only at hacc hp; subst hacc hp
  generalize rout st a = r at hcur ⊢
  cases r with
  | nothing => simp [evOf, delivOf, feedAll, hcur]
  | first m c => cases c <;> simp [evOf, delivOf, feedAll, feed, hcur.2]
  | finished m d => cases d <;> simp [evOf, delivOf, feedAll, feed, hcur.1, hcur.2, codeCfg_eq]

theorem feedAll_append (c : RecvAtt.Cfg) (s : RS) (l₁ l₂ : List Ev) : feedAll c s (l₁ ++ l₂) = feedAll c (feedAll c s l₁) l₂ :=
  List.foldl_append

/-- **attachments under every interleaving**: whatever the schedule and whatever descriptors each message carries, feeding the
receiver-side events of the execution to the attachment-vector machine of `recv` (the variant regenerated from the source) returns
for the messages delivered, in delivery order, exactly their own descriptors — however many truncated messages were discarded
in between. -/
theorem att_run (atts : Nat → List Nat) (as : List Act) (st : St) (s : RS)
    (hacc : s.acc = []) (hp : s.pend = st.cur.map atts) :
    (feedAll RecvAtt.codeCfg s ((routs st as).flatMap (evOf atts))).out = s.out ++ ((routs st as).flatMap delivOf).map atts := by
  induction as generalizing st s with
  | nil => simp [routs, feedAll]
  | cons a as ih =>
    simp only [routs]
    cases hst : step st a with
    | none => simp [feedAll]
    | some st' =>
      rw [List.flatMap_cons, List.flatMap_cons, feedAll_append, att_step atts hst hacc hp, ih st' _ rfl rfl,
        List.map_append, List.append_assoc]

theorem att_init (atts : Nat → List Nat) (sys : Nat) (lens : List Nat) (threads : List (List Nat)) (as : List Act) :
    (feedAll RecvAtt.codeCfg ⟨[], none, []⟩ ((routs (init sys lens threads) as).flatMap (evOf atts))).out
      = ((routs (init sys lens threads) as).flatMap delivOf).map atts := by
  have := att_run atts as (init sys lens threads) ⟨[], none, []⟩ rfl rfl
  simpa using this

end IM
