import IpcModel.Interleave.Proof
/-! The order in which messages are consumed.  `firstOrder` is a ghost list: the messages in the order their first packets reached the
channel queue.  By `OInv` it splits into what is consumed, the message in assembly and the channel queue; the receiver only takes
the front of the last two, so messages are consumed in that order, once each.  Like `SInv`, `OInv` is proved per `Move`. -/
namespace IM
open ListLookup

def consumedAt (st : St) (m : Nat) : Bool := match st.msgs[m]? with | some x => consumed x | none => false

def OInv (st : St) : Prop :=
  st.firstOrder.Nodup ∧
  (∃ C : List Nat, st.firstOrder = C ++ st.cur.toList ++ st.mainq ∧ ∀ k, k ∈ C → consumedAt st k = true) ∧
  (∀ (m : Nat) (x : M), st.msgs[m]? = some x → (m ∈ st.firstOrder ↔ x.rs ≠ .none)) ∧
  (∀ (m : Nat), st.cur = some m → ∃ x : M, st.msgs[m]? = some x ∧ isAsm x = true)

section
variable {st : St} {m : Nat} {x : M}

theorem OInv.nodup (hO : OInv st) : st.firstOrder.Nodup := hO.1

theorem OInv.split (hO : OInv st) :
    ∃ C : List Nat, st.firstOrder = C ++ st.cur.toList ++ st.mainq ∧ ∀ k, k ∈ C → consumedAt st k = true := hO.2.1

theorem OInv.mem_iff (hO : OInv st) (hm : st.msgs[m]? = some x) : m ∈ st.firstOrder ↔ x.rs ≠ .none := hO.2.2.1 m x hm

theorem OInv.cur (hO : OInv st) (hc : st.cur = some m) : ∃ x, st.msgs[m]? = some x ∧ isAsm x = true := hO.2.2.2 m hc

end

theorem consumedAt_iff {st : St} {k : Nat} : consumedAt st k = true ↔ ∃ x, st.msgs[k]? = some x ∧ consumed x = true := by
  unfold consumedAt
  cases st.msgs[k]? <;> simp

theorem Move.oinv {st st' : St} (hO : OInv st) (h : Move st st') : OInv st' := by
  simp only [OInv, consumedAt_iff] at hO ⊢
  obtain ⟨hnd, ⟨C, hsp, hC⟩, hmem, hcur⟩ := hO
  cases h with
  | @quiet m x x' th hm hI hrs =>
    have hcl : consumed x' = consumed x ∧ isAsm x' = isAsm x := by simp only [consumed, isAsm, hrs, and_self]
    refine ⟨hnd, ⟨C, hsp, fun k hk => ?consumed⟩, forall_get_set (fun j y _ => hmem j y) (hrs ▸ hmem m x hm), fun k hk => ?cur⟩
    case consumed => exact exists_get_set hm (fun _ h => hcl.1 ▸ h) (hC k hk)
    case cur => exact exists_get_set hm (fun _ h => hcl.2 ▸ h) (hcur k hk)
  | @first m x x' th hm hI hx hx' =>
    -- `m` comes last in the order and in the queue; it was in neither, being neither consumed nor in assembly
    refine ⟨?nodup, ⟨C, ?split, fun k hk => ?consumed⟩, forall_get_set (fun j y hj hy => ?others) ?self, fun k hk => ?cur⟩
    case nodup => exact nodup_concat.mpr ⟨hnd, fun hin => (hmem m x hm).mp hin hx⟩
    case split => simp only [hsp, List.append_assoc]
    case consumed => exact exists_get_set hm (fun _ h => by rw [consumed, hx] at h; cases h) (hC k hk)
    case others => rw [List.mem_append, List.mem_singleton, or_iff_left hj]; exact hmem j y hy
    case self => simp [hx']
    case cur => exact exists_get_set hm (fun _ h => by rw [isAsm, hx] at h; cases h) (hcur k hk)
  | @recv m x x' q done hm hmv hf hmq =>
    -- the front `m` of what is in assembly or queued stays in assembly, or joins the consumed
    have hfo : st.firstOrder = C ++ m :: q := by rw [hsp, List.append_assoc, hf]
    have hmC : m ∉ C := fun hc => (List.nodup_append.mp (hfo ▸ hnd)).2.2 m hc m (List.mem_cons_self ..) rfl
    have hC' := fun k hk => exists_get_set hm (y := x') (fun e _ => absurd (e ▸ hk) hmC) (hC k hk)
    have hmem' : ∀ j y, (st.msgs.set m x')[j]? = some y → (j ∈ st.firstOrder ↔ y.rs ≠ .none) :=
      forall_get_set (fun j y _ => hmem j y) (iff_of_true (by simp [hfo]) hmv.ne)
    cases done
    · exact ⟨hnd, ⟨C, by simp [hfo], hC'⟩, hmem', fun k hk => by cases hk; exact exists_get_set_self hm hmv.stage⟩
    · refine ⟨hnd, ⟨C ++ [m], by simp [hfo], fun k hk => ?_⟩, hmem', nofun⟩
      rcases List.mem_append.mp hk with hk | hk
      · exact hC' k hk
      · rw [List.mem_singleton.mp hk]; exact exists_get_set_self hm hmv.stage

theorem oinv_step (st st' : St) (a : Act) (hS : SInv st) (hO : OInv st) (h : step st a = some st') : OInv st' :=
  ((Step.of_step h).move hS).oinv hO

theorem oinv_init (sys : Nat) (lens : List Nat) (threads : List (List Nat)) : OInv (init sys lens threads) := by
  refine ⟨List.nodup_nil, ⟨[], rfl, nofun⟩, fun m x hm => ?_, nofun⟩
  obtain ⟨l, rfl⟩ := init_msgs hm
  simp [init]

theorem inv_run (st st' : St) (as : List Act) (hS : SInv st) (hO : OInv st) (h : run st as = some st') : SInv st' ∧ OInv st' := by
  refine run_induction (P := fun st => SInv st ∧ OInv st) (fun st st' a hP h => ?_) ⟨hS, hO⟩ h
  exact ⟨sinv_step st st' a hP.1 h, oinv_step st st' a hP.1 hP.2 h⟩

/-- **C02 exactly-once / FIFO, all schedules**: messages are consumed in the order their first packets were enqueued, each at most
    once, none skipped. -/
theorem fifo_consumption (sys : Nat) (lens : List Nat) (threads : List (List Nat)) (hsys : 1000 ≤ sys)
    (as : List Act) (st : St) (h : run (init sys lens threads) as = some st) :
    st.firstOrder.Nodup ∧
    ∃ C : List Nat, st.firstOrder = C ++ st.cur.toList ++ st.mainq ∧
      (∀ k, k ∈ C → consumedAt st k = true) ∧
      (∀ k, k ∈ st.cur.toList ++ st.mainq → consumedAt st k = false) := by
  obtain ⟨hS, hO⟩ := inv_run _ _ as (sinv_init sys lens threads hsys) (oinv_init sys lens threads) h
  obtain ⟨C, hsp, hC⟩ := hO.split
  refine ⟨hO.nodup, C, hsp, hC, fun k hk => ?_⟩
  rcases List.mem_append.mp hk with hk | hk
  · obtain ⟨y, hy, hya⟩ := hO.cur (Option.mem_toList.mp hk)
    simp only [consumedAt, hy, consumed]
    cases hr : y.rs <;> simp [isAsm, hr] at hya ⊢
  · obtain ⟨y, hy, hyq⟩ := hS.inQueue hk
    simp only [consumedAt, hy, consumed, hyq]

end IM
