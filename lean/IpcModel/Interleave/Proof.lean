import IpcModel.Interleave.Step
import IpcModel.Lemmas.Arith
import IpcModel.Lemmas.ListLookup
/-! Safety of the interleaving model.  The Boolean `MInv` is read through `Good` (`good_iff`): a message is not yet on the wire, or a
single packet queued or delivered, or *in flight* — then a sender's side (`Sending`) and a receiver's side (`Receiving`) that share
only `h`, `upTo` and the dedicated queue, so a sender step and a receiver step are each proved against one half.  A state invariant
sees of a step only one of three `Move`s of one message, so `SInv` (here) and `OInv` (`Order`) are proved per `Move`. -/
namespace IM
open ListLookup

theorem fs_mono (a b : Nat) (h : a ≤ b) : fs a ≤ fs b := Nat.sub_le_sub_right h _
theorem ffs_mono (a b : Nat) (h : a ≤ b) : ffs a ≤ ffs b :=
  Nat.mul_le_mul_right 8 (Nat.div_le_div_right (Nat.sub_le_sub_right (fs_mono a b h) _))
theorem ffs_lt (sb : Nat) (h : 1000 ≤ sb) : 0 < ffs sb ∧ ffs sb + 8 ≤ fs sb ∧ fs sb < sb := Arith.closed_lt sb h
theorem ffs_le (sb : Nat) (h : 1000 ≤ sb) : ffs sb ≤ sb := by
  have := ffs_lt sb h; omega

theorem endPos_first (len sb : Nat) : endPos len 0 sb = ffs sb := if_pos rfl
theorem endPos_follow {len pos sb sys : Nat} (hp : 0 < pos) (hl : pos < len) (hsb : 1000 ≤ sb) (hs : sb ≤ sys) :
    pos < endPos len pos sb ∧ endPos len pos sb ≤ len ∧ endPos len pos sb - pos ≤ fs sys ∧ endPos len pos sb - pos ≤ sb := by
  rw [endPos, if_neg (Nat.ne_of_gt hp)]
  obtain ⟨h1, h2, h3⟩ := Arith.endFollow_spec len pos sb hl (Nat.sub_pos_of_lt (Nat.lt_of_lt_of_le (by decide) hsb))
  exact ⟨h1, h2, Nat.le_trans h3 (fs_mono sb sys hs), Nat.le_trans h3 (Nat.sub_le ..)⟩

theorem downsize_ok {sb n sb' : Nat} (h : downsize sb n = some sb') (hn : n ≤ sb) : 1000 ≤ sb' ∧ sb' ≤ sb ∧ ffs sb' < n := by
  obtain ⟨_, h1, h2, h3⟩ := Arith.downsize_spec sb n sb' h
  have := ffs_lt sb' (h3 hn)
  omega

theorem cover_cons {a p : Nat} {c : Chunk} {r : List Chunk} :
    cover a (c :: r) = some p ↔ c.lo = a ∧ c.lo < c.hi ∧ cover c.hi r = some p := by
  simp only [cover]
  split
  · rename_i hc; exact ⟨fun h => ⟨hc.1, hc.2, h⟩, fun h => h.2.2⟩
  · rename_i hc; simp only [reduceCtorEq, false_iff]; exact fun h => hc ⟨h.1, h.2.1⟩

theorem cover_le {a p : Nat} {q : List Chunk} (h : cover a q = some p) : a ≤ p := by
  induction q generalizing a with
  | nil => cases h; exact Nat.le_refl _
  | cons c r ih => obtain ⟨rfl, hlt, hc⟩ := cover_cons.mp h; exact Nat.le_trans (Nat.le_of_lt hlt) (ih hc)

theorem cover_append {a p e : Nat} {q : List Chunk} (h : cover a q = some p) (hpe : p < e) :
    cover a (q ++ [⟨p, e⟩]) = some e := by
  induction q generalizing a with
  | nil => cases h; simp [cover, hpe]
  | cons c r ih =>
    obtain ⟨hlo, hlt, hc⟩ := cover_cons.mp h
    exact cover_cons.mpr ⟨hlo, hlt, ih hc⟩

theorem chunksOk_cons {sys len : Nat} {c : Chunk} {r : List Chunk} :
    chunksOk sys len (c :: r) = true ↔ (c.hi ≤ len ∧ c.hi - c.lo ≤ fs sys) ∧ chunksOk sys len r = true := by
  simp [chunksOk]

theorem chunksOk_append {sys len lo hi : Nat} {q : List Chunk} (h : chunksOk sys len q = true) (h1 : hi ≤ len)
    (h2 : hi - lo ≤ fs sys) : chunksOk sys len (q ++ [⟨lo, hi⟩]) = true := by
  simp only [chunksOk, List.all_append, List.all_cons, List.all_nil, Bool.and_true, Bool.and_eq_true, decide_eq_true_eq] at h ⊢
  exact ⟨h, h1, h2⟩

/-- The sender's side of a fragmented message whose first packet `[0,h)` is out: phase, whether its end of the dedicated socket is
closed, and `upTo`, the end of what it has written there. -/
inductive Sending (sys len h : Nat) : Phase → Bool → Nat → Prop
  | frag {pos sb} (hp : h ≤ pos) (hl : pos < len) (hsb : 1000 ≤ sb) (hs : sb ≤ sys) : Sending sys len h (.frag pos sb) false pos
  | ok : Sending sys len h .ok true len
  | failed {p} (hl : p < len) : Sending sys len h .failed true p

/-- The receiver's side: the chunks `q` still on the dedicated socket continue exactly where the receiver stands and end at `upTo`. -/
inductive Receiving (len h upTo : Nat) (q : List Chunk) (ph : Phase) : RState → Prop
  | queued (hc : cover h q = some upTo) : Receiving len h upTo q ph .queued
  | asm {got} (hg : h ≤ got) (hl : got < len) (hc : cover got q = some upTo) : Receiving len h upTo q ph (.asm got)
  | delivered (hp : ph = .ok) : Receiving len h upTo q ph (.delivered len)
  | discarded (hp : ph = .failed) : Receiving len h upTo q ph .discarded

/-- `MInv` by the shapes a message can have. -/
inductive Good (sys : Nat) : M → Prop
  | todo {len} : Good sys ⟨len, .todo, none, [], false, .none⟩
  | single {len} (hl : len ≤ ffs sys) : Good sys ⟨len, .single, none, [], false, .none⟩
  | frag0 {len sb} (hsb : 1000 ≤ sb) (hs : sb ≤ sys) (hl : ffs sb < len) : Good sys ⟨len, .frag 0 sb, none, [], false, .none⟩
  | failed0 {len tx} : Good sys ⟨len, .failed, none, [], tx, .none⟩
  | ok1 {len tx rs} (hr : rs = .queued ∨ rs = .delivered len) : Good sys ⟨len, .ok, some len, [], tx, rs⟩
  | flight {len ph h q tx rs upTo} (h0 : 0 < h) (hl : h < len) (hf : h ≤ ffs sys) (hck : chunksOk sys len q = true)
      (hs : Sending sys len h ph tx upTo) (hr : Receiving len h upTo q ph rs) : Good sys ⟨len, ph, some h, q, tx, rs⟩

theorem Sending.le {sys len h u : Nat} {ph : Phase} {tx : Bool} (hs : Sending sys len h ph tx u) : u ≤ len ∧ (u = len → ph = .ok) := by
  cases hs with
  | frag _ hl => exact ⟨Nat.le_of_lt hl, fun e => absurd e (Nat.ne_of_lt hl)⟩
  | ok => exact ⟨Nat.le_refl _, fun _ => rfl⟩
  | failed hl => exact ⟨Nat.le_of_lt hl, fun e => absurd e (Nat.ne_of_lt hl)⟩

theorem rview_iff {len : Nat} {q : List Chunk} {rs : RState} {h u : Nat} {allowDelivered allowDiscarded : Bool} {ph : Phase}
    (ha : allowDelivered = true ↔ ph = .ok) (hb : allowDiscarded = true ↔ ph = .failed) :
    rview len q rs h u allowDelivered allowDiscarded = true ↔ Receiving len h u q ph rs := by
  constructor
  · intro hv
    cases rs <;> simp only [rview, Bool.and_eq_true, decide_eq_true_eq, Bool.false_eq_true] at hv
    · exact .queued hv
    · exact .asm hv.1.1 hv.1.2 hv.2
    · exact hv.2 ▸ .delivered (ha.mp hv.1)
    · exact .discarded (hb.mp hv)
  · intro hr
    cases hr <;> simp [rview, *]

theorem good_iff (sys : Nat) (x : M) : MInv sys x = true ↔ Good sys x := by
  constructor
  · intro hI
    obtain ⟨len, ph, fh, q, tx, rs⟩ := x
    -- by phase and whether the first packet is out; `simp` closes the combinations `MInv` rules out
    cases ph <;> cases fh <;>
      simp only [MInv, Bool.and_eq_true, decide_eq_true_eq, Bool.not_eq_true', Bool.false_eq_true, and_assoc] at hI
    case todo.none => obtain ⟨rfl, rfl, rfl⟩ := hI; exact .todo
    case single.none => obtain ⟨rfl, rfl, rfl, hl⟩ := hI; exact .single hl
    case frag.none pos sb => obtain ⟨rfl, rfl, rfl, rfl, hsb, hs, hl⟩ := hI; exact .frag0 hsb hs hl
    case frag.some pos sb h =>
      obtain ⟨_, hl, hsb, hs, hf, h0, hp, rfl, hck, hrv⟩ := hI
      exact .flight h0 (Nat.lt_of_le_of_lt hp hl) hf hck (.frag hp hl hsb hs) ((rview_iff (by simp) (by simp)).mp hrv)
    case ok.some h =>
      split at hI
      · rename_i hel; subst hel
        simp only [Bool.and_eq_true, decide_eq_true_eq, Bool.or_eq_true] at hI
        obtain ⟨rfl, hr⟩ := hI; exact .ok1 hr
      · simp only [Bool.and_eq_true, decide_eq_true_eq, and_assoc] at hI
        obtain ⟨h0, hl, hf, rfl, hck, hrv⟩ := hI
        exact .flight h0 hl hf hck .ok ((rview_iff (by simp) (by simp)).mp hrv)
    case failed.none => obtain ⟨rfl, rfl⟩ := hI; exact .failed0
    case failed.some h =>
      -- the receiver's side is spelt out in `MInv` here, with `upTo` left open: it is where `cover` ends
      obtain ⟨h0, hl, hf, rfl, hck, hrv⟩ := hI
      rcases rs with _ | _ | got | _ | _ | _ <;> simp only [Bool.and_eq_true, decide_eq_true_eq, Bool.false_eq_true] at hrv
      · cases hc : cover h q <;> simp only [hc, decide_eq_true_eq, Bool.false_eq_true] at hrv
        exact .flight h0 hl hf hck (.failed hrv) (.queued hc)
      · obtain ⟨hg, hrv⟩ := hrv
        cases hc : cover got q <;> simp only [hc, decide_eq_true_eq, Bool.false_eq_true] at hrv
        exact .flight h0 hl hf hck (.failed hrv) (.asm hg (Nat.lt_of_le_of_lt (cover_le hc) hrv) hc)
      · exact .flight h0 hl hf hck (.failed hl) (.discarded rfl)
  · intro hG
    cases hG with
    | flight h0 hl hf hck hs hr =>
      cases hs with
      | frag hp hl' hsb hs =>
        have := (rview_iff (allowDelivered := false) (allowDiscarded := false) (by simp) (by simp)).mpr hr
        have hpos : 0 < _ := Nat.lt_of_lt_of_le h0 hp
        simp [MInv, *]
      | ok =>
        have := (rview_iff (allowDelivered := true) (allowDiscarded := false) (by simp) (by simp)).mpr hr
        simp [MInv, Nat.ne_of_lt hl, *]
      | failed hl' => cases hr <;> simp_all [MInv]
    | _ => simp [MInv, *]

/-- All the state level sees of a sender-side move `x ↦ x'`: the receiver's state stays (`same`) or, with `enq`, the first packet
goes onto the channel queue (`first`). -/
inductive SenderMove (sys : Nat) (x x' : M) : (enq : Bool) → Prop
  | same (hG : Good sys x') (h : x'.rs = x.rs) : SenderMove sys x x' false
  | first (hG : Good sys x') (h : x.rs = .none) (h' : x'.rs = .queued) : SenderMove sys x x' true

/-- with the sender in `frag` the receiver has neither finished nor given up, so its side survives any sender move under which the
chunks keep covering (`hc`: a chunk appended, or nothing) -/
theorem Receiving.mono {len h u u' pos sb : Nat} {q q' : List Chunk} {rs : RState} (hr : Receiving len h u q (.frag pos sb) rs)
    (hc : ∀ a, cover a q = some u → cover a q' = some u') {ph : Phase} : Receiving len h u' q' ph rs := by
  cases hr with
  | queued h1 => exact .queued (hc _ h1)
  | asm hg hl h1 => exact .asm hg hl (hc _ h1)
  | delivered hp => cases hp
  | discarded hp => cases hp

theorem minv_sMsg {sys : Nat} {x x' : M} {sd : Side} (hsys : 1000 ≤ sys) (hG : Good sys x)
    (h : sMsg sys x = some (x', sd)) : SenderMove sys x x' sd.enqueue := by
  cases hG with
  | todo =>
    simp only [sMsg] at h
    split at h <;> cases h
    · rename_i hle; exact .same (.single hle) rfl
    · rename_i hle; exact .same (.frag0 hsys (Nat.le_refl _) (Nat.lt_of_not_le hle)) rfl
  | single hl => cases h; exact .first (.ok1 (.inl rfl)) rfl rfl
  | frag0 hsb hs hl =>
    cases h
    exact .first (.flight (ffs_lt _ hsb).1 hl (ffs_mono _ _ hs) rfl (.frag (Nat.le_refl _) hl hsb hs) (.queued rfl)) rfl rfl
  | flight h0 hl hf hck hs hr =>
    cases hs with
    | frag hp hl' hsb hs =>
      have hpos := Nat.lt_of_lt_of_le h0 hp
      have he := endPos_follow hpos hl' hsb hs
      have hck' := chunksOk_append hck he.2.1 he.2.2.1
      simp only [sMsg, if_neg (Nat.ne_of_gt hpos)] at h
      split at h <;> cases h
      · -- the chunk ends the message: the send returns `Ok`
        rename_i hel
        have hr' := hr.mono (ph := .ok) fun _ hc => (cover_append hc he.1).trans (congrArg some hel)
        exact .same (.flight h0 hl hf hck' .ok hr') rfl
      · rename_i hel
        have hs' := Sending.frag (Nat.le_trans hp (Nat.le_of_lt he.1)) (Nat.lt_of_le_of_ne he.2.1 hel) hsb hs
        exact .same (.flight h0 hl hf hck' hs' (hr.mono fun _ hc => cover_append hc he.1)) rfl
    | _ => cases h
  | _ => cases h

theorem minv_fMsg {sys : Nat} {x x' : M} {sd : Side} (hsys : 1000 ≤ sys) (hG : Good sys x)
    (h : fMsg sys x = some (x', sd)) : SenderMove sys x x' sd.enqueue := by
  cases hG with
  | single hl =>
    simp only [fMsg] at h
    split at h <;> cases h
    · rename_i sb' hd
      have hd := downsize_ok hd (Nat.le_trans hl (ffs_le sys hsys))
      exact .same (.frag0 hd.1 hd.2.1 hd.2.2) rfl
    · exact .same .failed0 rfl
  | frag0 hsb hs hl =>
    simp only [fMsg, endPos_first, Nat.sub_zero] at h
    split at h <;> cases h
    · rename_i sb' hd
      have hd := downsize_ok hd (ffs_le _ hsb)
      exact .same (.frag0 hd.1 (Nat.le_trans hd.2.1 hs) (Nat.lt_trans hd.2.2 hl)) rfl
    · exact .same .failed0 rfl
  | flight h0 hl hf hck hs hr =>
    cases hs with
    | frag hp hl' hsb hs =>
      simp only [fMsg] at h
      split at h <;> cases h
      · rename_i sb' hd
        have hd := downsize_ok hd (endPos_follow (Nat.lt_of_lt_of_le h0 hp) hl' hsb hs).2.2.2
        exact .same (.flight h0 hl hf hck (.frag hp hl' hd.1 (Nat.le_trans hd.2.1 hs)) (hr.mono fun _ => id)) rfl
      · exact .same (.flight h0 hl hf hck (.failed hl') (hr.mono fun _ => id)) rfl
    | _ => cases h
  | _ => cases h

theorem minv_kill {sys : Nat} {x x' : M} (hG : Good sys x) (h : killMsg x = some x') : SenderMove sys x x' false := by
  cases hG with
  | todo => cases h; exact .same .todo rfl
  | single => cases h; exact .same .failed0 rfl
  | frag0 => cases h; exact .same .failed0 rfl
  | flight h0 hl hf hck hs hr =>
    cases hs with
    | frag hp hl' => cases h; exact .same (.flight h0 hl hf hck (.failed hl') (hr.mono fun _ => id)) rfl
    | _ => cases h
  | _ => cases h

/-- All the state level sees of a receiver-side move to `x'`. -/
structure RecvMove (sys : Nat) (x' : M) (done : Bool) : Prop where
  inv : Good sys x'
  stage : if done then consumed x' = true else isAsm x' = true
  ne : x'.rs ≠ .none

theorem minv_rPop {sys : Nat} {x x' : M} {done : Bool} (hG : Good sys x) (hq : x.rs = .queued)
    (h : rPop x = some (x', done)) : RecvMove sys x' done := by
  cases hG with
  | ok1 => simp only [rPop] at h; cases h; exact ⟨.ok1 (.inr rfl), rfl, nofun⟩
  | flight h0 hl hf hck hs hr =>
    cases hq
    simp only [rPop, if_neg (Nat.ne_of_lt hl)] at h; cases h
    cases hr with
    | queued hc => exact ⟨.flight h0 hl hf hck hs (.asm (Nat.le_refl _) hl hc), rfl, nofun⟩
  | _ => cases h

theorem rAsm_cons {sys len : Nat} {c : Chunk} (hlt : c.lo < c.hi) (hhi : c.hi ≤ len) (hfs : c.hi - c.lo ≤ fs sys)
    (ph : Phase) (fh : Option Nat) (r : List Chunk) (tx : Bool) :
    rAsm sys ⟨len, ph, fh, c :: r, tx, .asm c.lo⟩ =
      if c.hi = len then some (⟨len, ph, fh, r, tx, .delivered len⟩, true) else some (⟨len, ph, fh, r, tx, .asm c.hi⟩, false) := by
  have hn : min (c.hi - c.lo) (min (fs sys) (len - c.lo)) = c.hi - c.lo :=
    Nat.min_eq_left (Nat.le_min.mpr ⟨hfs, Nat.sub_le_sub_right hhi _⟩)
  have e : c.lo + (c.hi - c.lo) = c.hi := Nat.add_sub_cancel' (Nat.le_of_lt hlt)
  simp only [rAsm, hn, e]
  rw [if_pos ⟨trivial, trivial, Nat.sub_pos_of_lt hlt⟩]
  split <;> simp [*]

theorem minv_rAsm {sys : Nat} {x x' : M} {done : Bool} (hG : Good sys x)
    (h : rAsm sys x = some (x', done)) : isAsm x = true ∧ RecvMove sys x' done := by
  cases hG with
  | @flight len ph _ q tx _ u h0 hl hf hck hs hr =>
    cases hr with
    | asm hg hgl hc =>
      refine ⟨rfl, ?_⟩
      cases q with
      | nil =>
        -- nothing left to read: the step needs the sender's end closed, and then the send failed short of `len`
        cases hc
        cases hs with
        | frag => cases h
        | ok => exact absurd hgl (Nat.lt_irrefl _)
        | failed hl' => cases h; exact ⟨.flight h0 hl hf hck (.failed hl') (.discarded rfl), rfl, nofun⟩
      | cons c r =>
        obtain ⟨rfl, hlt, hc'⟩ := cover_cons.mp hc
        obtain ⟨⟨hhi, hfs⟩, hck'⟩ := chunksOk_cons.mp hck
        rw [rAsm_cons hlt hhi hfs] at h
        split at h <;> cases h
        · rename_i hel
          -- the last byte has arrived, so the sender wrote all `len` bytes: its send returned `Ok`
          have hu := hs.le.2 (Nat.le_antisymm hs.le.1 (hel ▸ cover_le hc'))
          exact ⟨.flight h0 hl hf hck' hs (.delivered hu), rfl, nofun⟩
        · rename_i hel
          exact ⟨.flight h0 hl hf hck' hs (.asm (by omega) (Nat.lt_of_le_of_ne hhi hel) hc'), rfl, nofun⟩
    | _ => cases h
  | ok1 hr => rcases hr with rfl | rfl <;> cases h
  | _ => cases h

/-- a message in assembly whose sender is gone can always be read on: chunks are left, or the sender's end is closed -/
theorem rAsm_enabled {sys : Nat} {x : M} (hG : Good sys x) (hasm : isAsm x = true)
    (hfin : finished x) (sys' : Nat) : (rAsm sys' x).isSome = true := by
  cases hG with
  | @flight _ _ _ q _ _ _ _ _ _ _ hs hr =>
    cases hr with
    | asm =>
      cases q with
      | cons c r =>
        -- a chunk is always taken, whatever it looks like
        simp only [rAsm]
        split
        · split <;> rfl
        · rfl
      | nil =>
        cases hs with
        | frag => rcases hfin with h | h <;> cases h
        | ok => rfl
        | failed => rfl
    | _ => cases hasm
  | ok1 hr => rcases hr with rfl | rfl <;> cases hasm
  | _ => cases hasm

theorem Good.safe {sys : Nat} {x : M} (hG : Good sys x) :
    x.rs ≠ .corrupt ∧ (∀ n, x.rs = .delivered n → n = x.len ∧ x.phase = .ok) ∧ (x.rs = .discarded → x.phase = .failed) ∧
    (x.phase = .ok → x.rs ≠ .discarded) := by
  cases hG with
  | ok1 hr => rcases hr with rfl | rfl <;> simp
  | flight _ _ _ _ _ hr => cases hr <;> simp_all
  | _ => simp

theorem Good.started {sys : Nat} {x : M} (hG : Good sys x) : (x.phase = .todo → x.rs = .none) ∧ (x.phase = .ok → x.rs ≠ .none) := by
  cases hG with
  | ok1 hr => rcases hr with rfl | rfl <;> exact ⟨nofun, fun _ => nofun⟩
  | flight _ _ _ _ hs hr =>
    refine ⟨fun e => ?_, fun _ => ?_⟩
    · cases e; cases hs
    · cases hr <;> nofun
  | _ => exact ⟨fun _ => rfl, nofun⟩

section
variable {st : St} {m : Nat} {x : M}

theorem SInv.sys (hS : SInv st) : 1000 ≤ st.sys := hS.1

theorem SInv.good (hS : SInv st) (hm : st.msgs[m]? = some x) : Good st.sys x := (good_iff ..).mp (hS.2.1 m x hm)

theorem SInv.inQueue (hS : SInv st) (hin : m ∈ st.mainq) : ∃ x, st.msgs[m]? = some x ∧ x.rs = .queued := hS.2.2.1 m hin

theorem SInv.nodup (hS : SInv st) : st.mainq.Nodup := hS.2.2.2

theorem SInv.queued (hS : SInv st) (hm : st.msgs[m]? = some x) (hin : m ∈ st.mainq) : x.rs = .queued := by
  obtain ⟨y, hy, hq⟩ := hS.inQueue hin
  rw [hm] at hy; cases hy; exact hq

theorem SInv.set {x' : M} (hS : SInv st) (hG : Good st.sys x') {m : Nat} :
    ∀ (j : Nat) (y : M), (st.msgs.set m x')[j]? = some y → MInv st.sys y = true :=
  forall_get_set (fun j y _ => hS.2.1 j y) ((good_iff ..).mpr hG)

end

/-- A step as the receiver's bookkeeping sees it: one message `m` rewritten and moved along channel queue → assembly → consumed.
The threads, of which no invariant speaks, are left open. -/
inductive Move (st : St) : St → Prop
  | quiet {m x x'} {th : List (List Nat)} (hm : st.msgs[m]? = some x) (hI : Good st.sys x') (hrs : x'.rs = x.rs) :
      Move st { st with msgs := st.msgs.set m x', threads := th }
  | first {m x x'} {th : List (List Nat)} (hm : st.msgs[m]? = some x) (hI : Good st.sys x')
      (hx : x.rs = .none) (hx' : x'.rs = .queued) :
      Move st { st with msgs := st.msgs.set m x', threads := th, mainq := st.mainq ++ [m], firstOrder := st.firstOrder ++ [m] }
  | recv {m x x' q done} (hm : st.msgs[m]? = some x) (hmv : RecvMove st.sys x' done)
      (hf : st.cur.toList ++ st.mainq = m :: q) (hmq : m ∉ q) :
      Move st { st with msgs := st.msgs.set m x', mainq := q, cur := if done then none else some m }

theorem SenderMove.move {st : St} {t m : Nat} {x x' : M} {sd : Side} (hm : st.msgs[m]? = some x)
    (hmv : SenderMove st.sys x x' sd.enqueue) : Move st (applySender st t m x' sd) := by
  obtain ⟨enq, fin⟩ := sd
  cases hmv with
  | same hG h => exact .quiet hm hG h
  | first hG h h' => exact .first hm hG h h'

theorem Step.move {st st' : St} {a : Act} (hS : SInv st) (h : Step st a st') : Move st st' := by
  cases h with
  | send _ hm hs => exact (minv_sMsg hS.sys (hS.good hm) hs).move hm
  | fault _ hm hs => exact (minv_fMsg hS.sys (hS.good hm) hs).move hm
  | fatal _ hm _ hk => exact (minv_kill (hS.good hm) hk).move hm
  | crash _ hm hk => cases minv_kill (hS.good hm) hk with | same hG h => exact .quiet hm hG h
  | @pop m q _ _ _ hcur hq hm hp =>
    have hin : m ∈ st.mainq := hq ▸ List.mem_cons_self ..
    have hf : st.cur.toList ++ st.mainq = m :: q := by rw [hcur, hq]; rfl
    exact .recv hm (minv_rPop (hS.good hm) (hS.queued hm hin) hp) hf (List.nodup_cons.mp (hq ▸ hS.nodup)).1
  | @asm m _ _ _ hcur hm hp =>
    obtain ⟨hx, hmv⟩ := minv_rAsm (hS.good hm) hp
    have hf : st.cur.toList ++ st.mainq = m :: st.mainq := by rw [hcur]; rfl
    -- what is queued is not in assembly
    refine .recv hm hmv hf fun hin => ?_
    rw [isAsm, hS.queued hm hin] at hx
    cases hx

theorem Move.sinv {st st' : St} (hS : SInv st) (h : Move st st') : SInv st' := by
  cases h with
  | quiet hm hI hrs =>
    exact ⟨hS.sys, hS.set hI, fun k hk => exists_get_set hm (fun _ h => hrs.trans h) (hS.inQueue hk), hS.nodup⟩
  | @first m x x' th hm hI hx hx' =>
    have hnot : m ∉ st.mainq := fun hin => by have := hS.queued hm hin; rw [hx] at this; cases this
    refine ⟨hS.sys, hS.set hI, fun k hk => ?_, nodup_concat.mpr ⟨hS.nodup, hnot⟩⟩
    rcases List.mem_append.mp hk with hk | hk
    · exact exists_get_set hm (fun e _ => absurd (e ▸ hk) hnot) (hS.inQueue hk)
    · rw [List.mem_singleton.mp hk]; exact exists_get_set_self hm hx'
  | @recv m x x' q done hm hmv hf hmq =>
    have hsub : q.Sublist st.mainq := by
      cases hc : st.cur <;> rw [hc] at hf
      · exact (show st.mainq = m :: q from hf) ▸ List.sublist_cons_self m q
      · exact (List.cons.inj hf).2 ▸ List.Sublist.refl _
    exact ⟨hS.sys, hS.set hmv.inv,
      fun k hk => exists_get_set hm (fun e _ => absurd (e ▸ hk) hmq) (hS.inQueue (hsub.subset hk)), hS.nodup.sublist hsub⟩

theorem sinv_step (st st' : St) (a : Act) (hS : SInv st) (h : step st a = some st') : SInv st' :=
  ((Step.of_step h).move hS).sinv hS

theorem sinv_run (st st' : St) (as : List Act) (hS : SInv st) (h : run st as = some st') : SInv st' :=
  run_induction sinv_step hS h

theorem sinv_init (sys : Nat) (lens : List Nat) (threads : List (List Nat)) (h : 1000 ≤ sys) : SInv (init sys lens threads) := by
  refine ⟨h, fun m x hm => ?_, nofun, List.nodup_nil⟩
  obtain ⟨l, rfl⟩ := init_msgs hm
  exact (good_iff ..).mpr .todo

/-- **C02/C12/C13 safety, all schedules** (sender steps, ENOBUFS faults, fatal errors, sender crashes and receiver steps in any
    order): no message is delivered corrupt; a delivered message has exactly its own `len` bytes and its send returned Ok; a
    discarded message belongs to a failed send. -/
theorem delivery_safe (sys : Nat) (lens : List Nat) (threads : List (List Nat)) (hsys : 1000 ≤ sys)
    (as : List Act) (st : St) (h : run (init sys lens threads) as = some st) (m : Nat) (x : M) (hm : st.msgs[m]? = some x) :
    x.rs ≠ .corrupt ∧ (∀ n, x.rs = .delivered n → n = x.len ∧ x.phase = .ok) ∧ (x.rs = .discarded → x.phase = .failed) ∧
    (x.phase = .ok → x.rs ≠ .discarded) :=
  ((sinv_run _ _ as (sinv_init sys lens threads hsys) h).good hm).safe

end IM
