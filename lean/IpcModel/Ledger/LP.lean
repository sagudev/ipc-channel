import IpcModel.Ledger.L
import IpcModel.Lemmas.ListLookup
/-! From `Inv`, kept by every operation: open ⇔ owned, a step closes only what is open (so nothing twice), nothing stays open once all
handles are dead. -/
namespace Ledger
open ListLookup

variable {st st' : St} {hs : List H} {arcs : List Arc} {arc : Arc} {a i j fd : Nat}

/-- only `install` makes a receiver handle: after a drop or a clone each was there before -/
theorem rcv_of_kill (hj : (hs.set i .dead)[j]? = some (H.rcv fd)) : hs[j]? = some (H.rcv fd) :=
  (get_set_of_ne hj nofun).2

theorem rcv_of_concat_snd (hj : (hs ++ [H.snd a])[j]? = some (H.rcv fd)) : hs[j]? = some (H.rcv fd) :=
  (get_concat.mp hj).resolve_right nofun

theorem get_set_fd {b c : Nat} {y : Arc} (ha : arcs[a]? = some arc) (hb : (arcs.set a { arc with cnt := c })[b]? = some y) :
    ∃ x, arcs[b]? = some x ∧ x.fd = y.fd := by
  rcases get_set.mp hb with ⟨rfl, -, rfl⟩ | ⟨-, hb⟩
  · exact ⟨arc, ha, rfl⟩
  · exact ⟨y, hb, rfl⟩

theorem sndCount_append (hs : List H) (h : H) (a : Nat) :
    sndCount (hs ++ [h]) a = sndCount hs a + (if h = H.snd a then 1 else 0) := by
  simp [sndCount]

theorem sndCount_set_dead {h : H} (hi : hs[i]? = some h) (a : Nat) :
    sndCount (hs.set i H.dead) a = sndCount hs a - (if h = H.snd a then 1 else 0) := by
  obtain ⟨hlt, rfl⟩ := List.getElem?_eq_some_iff.mp hi
  simp only [sndCount, List.countP_set hlt, decide_eq_true_eq, reduceCtorEq, if_false, Nat.add_zero]

theorem sndCount_pos : 0 < sndCount hs a ↔ ∃ i : Nat, hs[i]? = some (H.snd a) := by
  simp only [sndCount, List.countP_pos_iff, decide_eq_true_eq, exists_eq_right, List.mem_iff_getElem?]

theorem Inv.cnt_pos (hI : Inv st) (hi : st.hs[i]? = some (H.snd a)) (ha : st.arcs[a]? = some arc) : 0 < arc.cnt :=
  hI.counts a arc ha ▸ sndCount_pos.mpr ⟨i, hi⟩

/-- the three clauses on who shares a descriptor with whom survive a step after which every group sits on the descriptor it had
and no receiver handle is new -/
theorem Inv.keep_fds (hI : Inv st) {arcs' : List Arc} {hs' : List H}
    (harc : ∀ (b : Nat) (y : Arc), arcs'[b]? = some y → ∃ x, st.arcs[b]? = some x ∧ x.fd = y.fd)
    (hrcv : ∀ (j fd : Nat), hs'[j]? = some (H.rcv fd) → st.hs[j]? = some (H.rcv fd)) :
    (∀ (b c : Nat) (x y : Arc), arcs'[b]? = some x → arcs'[c]? = some y → x.fd = y.fd → b = c) ∧
    (∀ (j k fd : Nat), hs'[j]? = some (H.rcv fd) → hs'[k]? = some (H.rcv fd) → j = k) ∧
    (∀ (b : Nat) (x : Arc) (j : Nat), arcs'[b]? = some x → hs'[j]? = some (H.rcv x.fd) → False) := by
  refine ⟨fun b c x y hb hc e => ?_, fun j k fd hj hk => hI.rcvDistinct j k fd (hrcv j fd hj) (hrcv k fd hk), fun b x j hb hj => ?_⟩
  · obtain ⟨x', hb', ex⟩ := harc b x hb
    obtain ⟨y', hc', ey⟩ := harc c y hc
    exact hI.arcDistinct b c x' y' hb' hc' (ex.trans (e.trans ey.symm))
  · obtain ⟨x', hb', ex⟩ := harc b x hb
    exact hI.arcRcv b x' j hb' (ex ▸ hrcv j x.fd hj)

theorem opClone_eq_some : opClone st i = some st' →
    ∃ a arc, st.hs[i]? = some (H.snd a) ∧ st.arcs[a]? = some arc ∧
      st' = { st with arcs := st.arcs.set a { arc with cnt := arc.cnt + 1 }, hs := st.hs ++ [H.snd a] } := by
  fun_cases opClone st i <;> intro h <;> cases h
  exact ⟨_, _, ‹_›, ‹_›, rfl⟩

theorem opDrop_eq_some : opDrop st i = some st' →
    (∃ a arc, st.hs[i]? = some (H.snd a) ∧ st.arcs[a]? = some arc ∧
      st' = { st with arcs := st.arcs.set a { arc with cnt := arc.cnt - 1 }, hs := st.hs.set i H.dead,
                      closed := if arc.cnt = 1 then arc.fd :: st.closed else st.closed }) ∨
    ∃ fd, st.hs[i]? = some (H.rcv fd) ∧ st' = { st with closed := fd :: st.closed, hs := st.hs.set i H.dead } := by
  fun_cases opDrop st i <;> intro h <;> cases h
  · exact .inl ⟨_, _, ‹_›, ‹_›, rfl⟩
  · exact .inr ⟨_, ‹_›, rfl⟩

theorem inv_init : Inv init := by
  constructor <;> intros <;> simp_all [init, isOpen]

/-- the new number is open, and nothing old refers to it -/
theorem inv_install (hI : Inv st) (o : Nat) (k : Kind) : Inv (opInstall st o k) := by
  have hn : (st.ofdOf ++ [o]).length = st.ofdOf.length + 1 := List.length_append
  have hmono : ∀ {fd}, fd < st.ofdOf.length → fd < (st.ofdOf ++ [o]).length := fun h => hn ▸ Nat.lt_succ_of_lt h
  have hgrow : ∀ {fd}, isOpen st fd → fd < (st.ofdOf ++ [o]).length ∧ fd ∉ st.closed := fun h => ⟨hmono h.1, h.2⟩
  have hnew : st.ofdOf.length < (st.ofdOf ++ [o]).length ∧ st.ofdOf.length ∉ st.closed :=
    ⟨hn ▸ Nat.lt_succ_self _, fun h => Nat.lt_irrefl _ (hI.closedBound _ h)⟩
  cases k <;> simp only [opInstall]
  case snd =>
    exact {
      arcOpen := forall_get_concat (fun a x ha hc => hgrow (hI.arcOpen a x ha hc)) fun _ => hnew
      arcClosed := forall_get_concat hI.arcClosed nofun
      arcBound := forall_get_concat (fun a x ha => hmono (hI.arcBound a x ha)) hnew.1
      rcvOpen := fun i fd hi => hgrow (hI.rcvOpen i fd (rcv_of_concat_snd hi))
      owned := by
        intro fd ⟨hlt, hc⟩
        rcases Nat.lt_succ_iff_lt_or_eq.mp (hn ▸ hlt) with hlt | rfl
        · rcases hI.owned fd ⟨hlt, hc⟩ with ⟨a, x, ha, h⟩ | ⟨i, hi⟩
          · exact Or.inl ⟨a, x, get_append_left ha _, h⟩
          · exact Or.inr ⟨i, get_append_left hi _⟩
        · exact Or.inl ⟨_, _, List.getElem?_concat_length, Nat.one_pos, rfl⟩
      arcDistinct := by
        intro a b x y ha hb e
        rcases get_concat.mp ha with ha | ⟨rfl, rfl⟩ <;> rcases get_concat.mp hb with hb | ⟨rfl, rfl⟩
        · exact hI.arcDistinct a b x y ha hb e
        · exact absurd (hI.arcBound a x ha) (e ▸ Nat.lt_irrefl _)
        · exact absurd (hI.arcBound b y hb) (e ▸ Nat.lt_irrefl _)
        · rfl
      rcvDistinct := fun i j fd hi hj => hI.rcvDistinct i j fd (rcv_of_concat_snd hi) (rcv_of_concat_snd hj)
      arcRcv := by
        intro a x i ha hi
        have hi := rcv_of_concat_snd hi
        rcases get_concat.mp ha with ha | ⟨-, rfl⟩
        · exact hI.arcRcv a x i ha hi
        · exact Nat.lt_irrefl _ (hI.rcvOpen i _ hi).1
      counts := by
        refine forall_get_concat (fun a x ha => ?_) ?_
        · rw [sndCount_append, if_neg fun h => Nat.ne_of_gt (lt_of_get ha) (H.snd.inj h)]
          exact hI.counts a x ha
        · -- no existing handle points at the new Arc index
          have h0 : sndCount st.hs st.arcs.length = 0 := Nat.eq_zero_of_not_pos fun h =>
            let ⟨i, hi⟩ := sndCount_pos.mp h; Nat.lt_irrefl _ (hI.sndValid i _ hi)
          rw [sndCount_append, if_pos rfl, h0]
      sndValid := by
        rw [List.length_append]
        exact forall_get_concat' (fun i a hi => Nat.lt_succ_of_lt (hI.sndValid i a hi)) fun a h => H.snd.inj h ▸ Nat.lt_succ_self _
      closedBound := fun fd h => hmono (hI.closedBound fd h) }
  case rcv =>
    exact {
      arcOpen := fun a x ha hc => hgrow (hI.arcOpen a x ha hc)
      arcClosed := hI.arcClosed
      arcBound := fun a x ha => hmono (hI.arcBound a x ha)
      rcvOpen := forall_get_concat' (fun i fd hi => hgrow (hI.rcvOpen i fd hi)) fun fd h => H.rcv.inj h ▸ hnew
      owned := by
        intro fd ⟨hlt, hc⟩
        rcases Nat.lt_succ_iff_lt_or_eq.mp (hn ▸ hlt) with hlt | rfl
        · rcases hI.owned fd ⟨hlt, hc⟩ with h | ⟨i, hi⟩
          · exact Or.inl h
          · exact Or.inr ⟨i, get_append_left hi _⟩
        · exact Or.inr ⟨_, List.getElem?_concat_length⟩
      arcDistinct := hI.arcDistinct
      rcvDistinct := by
        intro i j fd hi hj
        rcases get_concat.mp hi with hi | ⟨rfl, h⟩ <;> rcases get_concat.mp hj with hj | ⟨rfl, h'⟩
        · exact hI.rcvDistinct i j fd hi hj
        · cases h'; exact absurd (hI.rcvOpen i _ hi).1 (Nat.lt_irrefl _)
        · cases h; exact absurd (hI.rcvOpen j _ hj).1 (Nat.lt_irrefl _)
        · rfl
      arcRcv := by
        intro a x i ha hi
        rcases get_concat.mp hi with hi | ⟨-, h⟩
        · exact hI.arcRcv a x i ha hi
        · exact Nat.lt_irrefl _ (H.rcv.inj h ▸ hI.arcBound a x ha)
      counts := by
        intro a x ha
        rw [sndCount_append, if_neg nofun]
        exact hI.counts a x ha
      sndValid := forall_get_concat' hI.sndValid nofun
      closedBound := fun fd h => hmono (hI.closedBound fd h) }

theorem inv_clone (hI : Inv st) (h : opClone st i = some st') : Inv st' := by
  obtain ⟨a, arc, hi, ha, rfl⟩ := opClone_eq_some h
  obtain ⟨hAD, hRD, hAR⟩ := hI.keep_fds (fun _ _ => get_set_fd ha) fun _ _ => rcv_of_concat_snd
  exact {
    arcOpen := forall_get_set (fun b x _ hb => hI.arcOpen b x hb) fun _ => hI.arcOpen a arc ha (hI.cnt_pos hi ha)
    arcClosed := forall_get_set (fun b x _ hb => hI.arcClosed b x hb) nofun
    arcBound := forall_get_set (fun b x _ hb => hI.arcBound b x hb) (hI.arcBound a arc ha)
    rcvOpen := fun j fd hj => hI.rcvOpen j fd (rcv_of_concat_snd hj)
    owned := by
      intro fd hfd
      rcases hI.owned fd hfd with ⟨b, x, hb, hc, hx⟩ | ⟨j, hj⟩
      · by_cases hba : b = a
        · cases hba; cases ha.symm.trans hb
          exact Or.inl ⟨a, _, get_set.mpr (Or.inl ⟨rfl, lt_of_get ha, rfl⟩), Nat.succ_pos _, hx⟩
        · exact Or.inl ⟨b, x, get_set.mpr (Or.inr ⟨hba, hb⟩), hc, hx⟩
      · exact Or.inr ⟨j, get_append_left hj _⟩
    arcDistinct := hAD
    rcvDistinct := hRD
    arcRcv := hAR
    counts := by
      refine forall_get_set (fun b x hne hb => ?_) ?_
      · rw [sndCount_append, if_neg fun h => hne (H.snd.inj h).symm]
        exact hI.counts b x hb
      · rw [sndCount_append, if_pos rfl]
        exact congrArg (· + 1) (hI.counts a arc ha)
    sndValid := by
      rw [List.length_set]
      exact forall_get_concat' hI.sndValid fun b h => H.snd.inj h ▸ lt_of_get ha
    closedBound := hI.closedBound }

theorem inv_drop (hI : Inv st) (h : opDrop st i = some st') : Inv st' := by
  rcases opDrop_eq_some h with ⟨a, arc, hi, ha, rfl⟩ | ⟨fd, hi, rfl⟩
  · have hpos := hI.cnt_pos hi ha
    have hopen := hI.arcOpen a arc ha hpos
    obtain ⟨hAD, hRD, hAR⟩ := hI.keep_fds (fun _ _ => get_set_fd ha) fun _ _ => rcv_of_kill
    have hlast : arc.cnt - 1 = 0 ↔ arc.cnt = 1 :=
      ⟨fun h => Nat.le_antisymm (Nat.le_of_sub_eq_zero h) hpos, fun h => by rw [h]⟩
    generalize hcl : (if arc.cnt = 1 then arc.fd :: st.closed else st.closed) = cl
    replace hcl : ∀ {fd}, fd ∈ cl ↔ fd ∈ st.closed ∨ (arc.cnt = 1 ∧ fd = arc.fd) := hcl ▸ mem_ite_cons
    -- descriptors that stay open: all but that of the group, if this was its last handle
    have hopSnd : ∀ {fd}, isOpen st fd → (arc.cnt = 1 → fd ≠ arc.fd) → fd < st.ofdOf.length ∧ fd ∉ cl :=
      fun h hne => ⟨h.1, fun hm => (hcl.mp hm).elim h.2 fun ⟨h1, e⟩ => hne h1 e⟩
    exact {
      arcOpen := forall_get_set
        (fun b x hne hb hc => hopSnd (hI.arcOpen b x hb hc) fun _ e => hne (hI.arcDistinct b a x arc hb ha e))
        fun hc => hopSnd hopen fun h1 => absurd (hlast.mpr h1) (Nat.ne_of_gt hc)
      arcClosed := forall_get_set (fun b x _ hb hc => hcl.mpr (Or.inl (hI.arcClosed b x hb hc)))
        fun hc => hcl.mpr (Or.inr ⟨hlast.mp hc, rfl⟩)
      arcBound := forall_get_set (fun b x _ hb => hI.arcBound b x hb) (hI.arcBound a arc ha)
      rcvOpen := fun j fd hj =>
        hopSnd (hI.rcvOpen j fd (rcv_of_kill hj)) fun _ e => hI.arcRcv a arc j ha (e ▸ rcv_of_kill hj)
      owned := by
        intro fd ⟨hlt, hc⟩
        have ⟨hc, hne⟩ := not_or.mp (mt hcl.mpr hc)
        rcases hI.owned fd ⟨hlt, hc⟩ with ⟨b, x, hb, hx, rfl⟩ | ⟨j, hj⟩
        · by_cases hba : b = a
          · cases hba; cases ha.symm.trans hb
            exact Or.inl ⟨a, _, get_set.mpr (Or.inl ⟨rfl, lt_of_get ha, rfl⟩), Nat.pos_of_ne_zero fun e => hne ⟨hlast.mp e, rfl⟩, rfl⟩
          · exact Or.inl ⟨b, x, get_set.mpr (Or.inr ⟨hba, hb⟩), hx, rfl⟩
        · -- handle `i` is a sender
          have hji : j ≠ i := by rintro rfl; cases hi.symm.trans hj
          exact Or.inr ⟨j, get_set.mpr (Or.inr ⟨hji, hj⟩)⟩
      arcDistinct := hAD
      rcvDistinct := hRD
      arcRcv := hAR
      counts := by
        refine forall_get_set (fun b x hne hb => ?_) ?_
        · rw [sndCount_set_dead hi, if_neg fun h => hne (H.snd.inj h).symm]
          exact hI.counts b x hb
        · rw [sndCount_set_dead hi, if_pos rfl]
          exact congrArg (· - 1) (hI.counts a arc ha)
      sndValid := by
        intro j b hj
        rw [List.length_set]
        exact hI.sndValid j b (get_set_of_ne hj nofun).2
      closedBound := fun fd hm => (hcl.mp hm).elim (hI.closedBound fd) fun ⟨_, e⟩ => e ▸ hopen.1 }
  · have hopen := hI.rcvOpen i fd hi
    obtain ⟨hAD, hRD, hAR⟩ := hI.keep_fds (fun _ y hy => ⟨y, hy, rfl⟩) fun _ _ => rcv_of_kill
    -- descriptors that stay open: all but the receiver's
    have hopRcv : ∀ {fd'}, isOpen st fd' → fd' ≠ fd → fd' < st.ofdOf.length ∧ fd' ∉ fd :: st.closed :=
      fun h hne => ⟨h.1, fun hm => (List.mem_cons.mp hm).elim hne h.2⟩
    exact {
      arcOpen := fun a x ha hc => hopRcv (hI.arcOpen a x ha hc) fun e => hI.arcRcv a x i ha (e ▸ hi)
      arcClosed := fun a x ha hc => List.mem_cons_of_mem _ (hI.arcClosed a x ha hc)
      arcBound := hI.arcBound
      rcvOpen := by
        intro j fd' hj
        have ⟨hne, hj⟩ := get_set_of_ne hj nofun
        exact hopRcv (hI.rcvOpen j fd' hj) fun e => hne (hI.rcvDistinct j i fd (e ▸ hj) hi)
      owned := by
        intro fd' ⟨hlt, hc⟩
        have ⟨hne, hc⟩ := not_or.mp (mt List.mem_cons.mpr hc)
        rcases hI.owned fd' ⟨hlt, hc⟩ with h | ⟨j, hj⟩
        · exact Or.inl h
        · -- handle `i` is the receiver of `fd`, which the step closes
          have hji : j ≠ i := by
            rintro rfl
            cases hi.symm.trans hj
            exact hne rfl
          exact Or.inr ⟨j, get_set.mpr (Or.inr ⟨hji, hj⟩)⟩
      arcDistinct := hAD
      rcvDistinct := hRD
      arcRcv := hAR
      counts := by
        intro a x ha
        rw [sndCount_set_dead hi, if_neg nofun]
        exact hI.counts a x ha
      sndValid := fun j b hj => hI.sndValid j b (get_set_of_ne hj nofun).2
      closedBound := fun fd' hm => (List.mem_cons.mp hm).elim (· ▸ hopen.1) (hI.closedBound fd') }

theorem run_induction {P : St → Prop} (hstep : ∀ st st' op, P st → step st op = some st' → P st') :
    ∀ {ops : List Op} {st st'}, P st → run st ops = some st' → P st'
  | [], _, _, h, hr => Option.some.inj hr ▸ h
  | op :: ops, st, st', h, hr => by
    simp only [run] at hr
    split at hr
    · next st1 h1 => exact run_induction hstep (hstep st st1 op h h1) hr
    · cases hr

theorem inv_step (st st' : St) (op : Op) (hI : Inv st) (h : step st op = some st') : Inv st' := by
  cases op with
  | install o k => exact Option.some.inj h ▸ inv_install hI o k
  | clone i => exact inv_clone hI h
  | drop i => exact inv_drop hI h

theorem inv_run (st st' : St) (ops : List Op) (hI : Inv st) (h : run st ops = some st') : Inv st' :=
  run_induction inv_step hI h

theorem closed_step {op : Op} (hI : Inv st) (h : step st op = some st') :
    st'.closed = st.closed ∨ ∃ fd, isOpen st fd ∧ st'.closed = fd :: st.closed := by
  cases op with
  | install o k => cases Option.some.inj h; cases k <;> exact Or.inl rfl
  | clone i => obtain ⟨a, arc, -, -, rfl⟩ := opClone_eq_some h; exact Or.inl rfl
  | drop i =>
    rcases opDrop_eq_some h with ⟨a, arc, hi, ha, rfl⟩ | ⟨fd, hi, rfl⟩
    · by_cases h1 : arc.cnt = 1
      · exact Or.inr ⟨arc.fd, hI.arcOpen a arc ha (h1 ▸ Nat.one_pos), if_pos h1⟩
      · exact Or.inl (if_neg h1)
    · exact Or.inr ⟨fd, hI.rcvOpen i fd hi, rfl⟩

theorem closed_nodup_run {ops : List Op} (hI : Inv st) (hn : st.closed.Nodup) (h : run st ops = some st') : st'.closed.Nodup := by
  refine (run_induction (P := fun s => Inv s ∧ s.closed.Nodup) (fun s s' op ⟨hI, hn⟩ h => ⟨inv_step s s' op hI h, ?_⟩) ⟨hI, hn⟩ h).2
  rcases closed_step hI h with e | ⟨fd, ho, e⟩ <;> rw [e]
  · exact hn
  · exact List.nodup_cons.mpr ⟨ho.2, hn⟩

theorem Inv.isOpen_iff_owned (hI : Inv st) (fd : Nat) : isOpen st fd ↔ Owned st fd :=
  ⟨hI.owned fd, fun h => h.elim (fun ⟨a, arc, h1, h2, h3⟩ => h3 ▸ hI.arcOpen a arc h1 h2) fun ⟨i, hi⟩ => hI.rcvOpen i fd hi⟩

theorem Inv.live_of_open (hI : Inv st) (ho : isOpen st fd) : ∃ (i : Nat) (h : H), st.hs[i]? = some h ∧ h ≠ H.dead := by
  rcases hI.owned fd ho with ⟨a, arc, h1, h2, -⟩ | ⟨i, hi⟩
  · obtain ⟨i, hi⟩ := sndCount_pos.mp (hI.counts a arc h1 ▸ h2)
    exact ⟨i, _, hi, nofun⟩
  · exact ⟨i, _, hi, nofun⟩

/-- **C11_restore**: after any history, once every handle has been dropped, every descriptor the library ever created or
received is closed — nothing leaked.  (That nothing else is ever closed, and nothing twice, is `closed_step` / `closed_nodup_run`.) -/
theorem restore (ops : List Op) (st : St) (h : run init ops = some st)
    (hall : ∀ (i : Nat) (hd : H), st.hs[i]? = some hd → hd = H.dead) : ∀ fd, fd < st.ofdOf.length → fd ∈ st.closed :=
  fun _ hlt => Decidable.byContradiction fun hnc =>
    let ⟨i, hd, hi, hl⟩ := (inv_run init st ops inv_init h).live_of_open ⟨hlt, hnc⟩
    hl (hall i hd hi)

/-- **C03 roots**: the open descriptors are exactly those reachable from live handles -/
theorem roots_coincide (ops : List Op) (st : St) (h : run init ops = some st) (fd : Nat) :
    isOpen st fd ↔ Owned st fd :=
  (inv_run init st ops inv_init h).isOpen_iff_owned fd

end Ledger
