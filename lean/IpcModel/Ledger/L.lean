/-! Ledger model (C11 / C03): descriptors are never renumbered (creation-order ids); sequential histories of library operations. -/
namespace Ledger

inductive Kind | snd | rcv
deriving Repr, DecidableEq

/-- the clones of one sender share one descriptor (`OsIpcSender.fd : Arc<SharedFileDescriptor>`): `cnt` of them are live, and the
last to go closes `fd` -/
structure Arc where
  fd : Nat
  cnt : Nat
deriving Repr, DecidableEq

/-- a handle of the program: a sender is a member of the `Arc` group with index `a`, a receiver owns descriptor `fd` itself, a
dropped handle stays in the list as `dead` (handles are never renumbered either) -/
inductive H | snd (a : Nat) | rcv (fd : Nat) | dead
deriving Repr, DecidableEq

structure St where
  ofdOf : List Nat        -- descriptor number -> open file description; next descriptor = ofdOf.length
  closed : List Nat       -- descriptors that have been closed
  arcs : List Arc
  hs : List H
deriving Repr

def isOpen (st : St) (fd : Nat) : Prop := fd < st.ofdOf.length ∧ fd ∉ st.closed

def sndCount (hs : List H) (a : Nat) : Nat := hs.countP (fun h => decide (h = H.snd a))

def Owned (st : St) (fd : Nat) : Prop :=
  (∃ (a : Nat) (arc : Arc), st.arcs[a]? = some arc ∧ arc.cnt > 0 ∧ arc.fd = fd) ∨ (∃ i : Nat, st.hs[i]? = some (H.rcv fd))

/-- ownership: open are exactly the descriptors of the groups with a live clone (`arcOpen`, `arcClosed`) and of the receiver handles
(`rcvOpen`, `owned`); no two owners share a descriptor (`arcDistinct`, `rcvDistinct`, `arcRcv`); a group's count is the number
of its sender handles (`counts`); the other clauses bound indices -/
structure Inv (st : St) : Prop where
  arcOpen : ∀ (a : Nat) (arc : Arc), st.arcs[a]? = some arc → arc.cnt > 0 → isOpen st arc.fd
  arcClosed : ∀ (a : Nat) (arc : Arc), st.arcs[a]? = some arc → arc.cnt = 0 → arc.fd ∈ st.closed
  arcBound : ∀ (a : Nat) (arc : Arc), st.arcs[a]? = some arc → arc.fd < st.ofdOf.length
  rcvOpen : ∀ (i fd : Nat), st.hs[i]? = some (H.rcv fd) → isOpen st fd
  owned : ∀ fd, isOpen st fd → Owned st fd
  arcDistinct : ∀ (a b : Nat) (x y : Arc), st.arcs[a]? = some x → st.arcs[b]? = some y → x.fd = y.fd → a = b
  rcvDistinct : ∀ (i j fd : Nat), st.hs[i]? = some (H.rcv fd) → st.hs[j]? = some (H.rcv fd) → i = j
  arcRcv : ∀ (a : Nat) (x : Arc) (i : Nat), st.arcs[a]? = some x → st.hs[i]? = some (H.rcv x.fd) → False
  counts : ∀ (a : Nat) (arc : Arc), st.arcs[a]? = some arc → arc.cnt = sndCount st.hs a
  sndValid : ∀ (i a : Nat), st.hs[i]? = some (H.snd a) → a < st.arcs.length
  closedBound : ∀ fd, fd ∈ st.closed → fd < st.ofdOf.length

/-- a received or freshly created descriptor for open file description `o` becomes a handle of kind `k` -/
def opInstall (st : St) (o : Nat) (k : Kind) : St :=
  let f := st.ofdOf.length
  match k with
  | .snd => { st with ofdOf := st.ofdOf ++ [o], arcs := st.arcs ++ [⟨f, 1⟩], hs := st.hs ++ [H.snd st.arcs.length] }
  | .rcv => { st with ofdOf := st.ofdOf ++ [o], hs := st.hs ++ [H.rcv f] }

def opClone (st : St) (i : Nat) : Option St :=
  match st.hs[i]? with
  | some (H.snd a) =>
    match st.arcs[a]? with
    | some arc => some { st with arcs := st.arcs.set a { arc with cnt := arc.cnt + 1 }, hs := st.hs ++ [H.snd a] }
    | none => none
  | _ => none

def opDrop (st : St) (i : Nat) : Option St :=
  match st.hs[i]? with
  | some (H.snd a) =>
    match st.arcs[a]? with
    | some arc =>
      some { st with arcs := st.arcs.set a { arc with cnt := arc.cnt - 1 }, hs := st.hs.set i H.dead,
                     closed := if arc.cnt = 1 then arc.fd :: st.closed else st.closed }
    | none => none
  | some (H.rcv fd) => some { st with closed := fd :: st.closed, hs := st.hs.set i H.dead }
  | _ => none

def init : St := ⟨[], [], [], []⟩

inductive Op
  | install (o : Nat) (k : Kind)     -- socketpair() / accept() / one descriptor received through SCM_RIGHTS
  | clone (i : Nat)
  | drop (i : Nat)                   -- drop a handle, or: an embedded receiver handle is moved into a message and closed after sendmsg

def step (st : St) : Op → Option St
  | .install o k => some (opInstall st o k)
  | .clone i => opClone st i
  | .drop i => opDrop st i

def run : St → List Op → Option St
  | st, [] => some st
  | st, op :: ops => match step st op with | some st' => run st' ops | none => none

end Ledger
