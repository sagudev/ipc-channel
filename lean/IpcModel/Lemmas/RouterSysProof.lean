import IpcModel.RouterSys
/-! The closed router system.  The proofs go through the relational form `Step` of `step`.  A client thread's move goes through
`Inv.thread_move`; a move of the router thread is a record update of `InvAt`, the invariant as it reads in a known phase of the
router.  `stopped_forever` (which needs no invariant) and `WInv` hold for every variant, the rest for the repaired code. -/
namespace RSys

/-- Invariant of the repaired system (`fixed`); it fails for `legacy`, where a waiting thread keeps the mutex. -/
structure Inv (st : St) : Prop where
  ackStopped : st.ackReleased = true → st.rpc = .stopped ∧ st.handlers = []
  stoppedAck : st.rpc = .stopped → st.ackReleased = true
  ackFlag : st.ackReleased = true → st.flag = true
  /-- no lost wake-up: whatever is queued for the router will be looked at -/
  noLost : st.msgq ≠ [] → st.rpc = .stopped ∨ st.rpc = .wakeRecv ∨ st.rpc = .draining ∨ 0 < st.wakeq
  /-- the converse is `WInv.queuedPending` / `WInv.recvPending` -/
  pendingSeen : st.wakePending = true → 0 < st.wakeq ∨ st.rpc = .wakeRecv
  mutexThread : ∀ i, st.mutex = some (i + 1) ↔ (st.threads i).ph = .holding
  mutexRouter : st.mutex = some 0 ↔ ∃ r n, st.rpc = .cbHolding r n
  flagMsg : st.flag = true → RMsg.shutdown ∈ st.msgq ∨ st.rpc = .stopped
  msgFlag : RMsg.shutdown ∈ st.msgq → st.flag = true
  waitFlag : ∀ i, (st.threads i).ph = .waiting → st.flag = true
  busyTodo : ∀ i, (st.threads i).ph ≠ .ready → (st.threads i).todo ≠ []

theorem thread_self (st : St) (i : Nat) (t : Thread) : (setThread st i t).threads i = t := by simp [setThread]
theorem thread_other (st : St) (i j : Nat) (t : Thread) (h : j ≠ i) : (setThread st i t).threads j = st.threads j := by simp [setThread, h]

/-- the arms of `step`, one constructor each, with its guard -/
inductive Step (V : Variant) (st : St) : Act → St → Prop
  | lock {i c rest} (hp : (st.threads i).ph = .ready) (ht : (st.threads i).todo = c :: rest) (hm : st.mutex = none) :
      Step V st (.thread i) (setThread { st with mutex := some (i + 1) } i { st.threads i with ph := .holding })
  | addRoute {i r rest} (hp : (st.threads i).ph = .holding) (ht : (st.threads i).todo = .addRoute r :: rest) :
      Step V st (.thread i) (setThread { (addRouteBody st r) with mutex := none } i ⟨rest, .ready⟩)
  | shutdown {i rest} (hp : (st.threads i).ph = .holding) (ht : (st.threads i).todo = .shutdown :: rest) :
      Step V st (.thread i)
        (setThread { (if st.flag then st else wake { st with flag := true, msgq := st.msgq ++ [.shutdown] }) with
                     mutex := if V.lockWhileWaiting then st.mutex else none } i ⟨.shutdown :: rest, .waiting⟩)
  | ret {i c rest} (hp : (st.threads i).ph = .waiting) (ht : (st.threads i).todo = c :: rest) (ha : st.ackReleased = true) :
      Step V st (.thread i) (setThread { st with mutex := if V.lockWhileWaiting then none else st.mutex } i ⟨rest, .ready⟩)
  | take (hr : st.rpc = .select) (hw : st.wakeq ≠ 0) : Step V st .router { st with wakeq := st.wakeq - 1, rpc := .wakeRecv }
  | clear (hr : st.rpc = .wakeRecv) : Step V st .router { st with wakePending := false, rpc := .draining }
  | drained (hr : st.rpc = .draining) (hq : st.msgq = []) : Step V st .router { st with rpc := .select }
  | serveAdd {r q} (hr : st.rpc = .draining) (hq : st.msgq = .addRoute r :: q) :
      Step V st .router { st with msgq := q, handlers := st.handlers ++ [r] }
  | serveShutdown {q} (hr : st.rpc = .draining) (hq : st.msgq = .shutdown :: q) :
      Step V st .router
        { st with msgq := q, droppedLog := st.droppedLog ++ st.handlers, handlers := [], ackReleased := true, rpc := .stopped }
  | cbDone {r} (hr : st.rpc = .callback r 0) : Step V st .router { st with rpc := .select }
  | cbLock {r n} (hr : st.rpc = .callback r (n + 1)) (hm : st.mutex = none) :
      Step V st .router { st with mutex := some 0, rpc := .cbHolding r n }
  | cbAdd {r n} (hr : st.rpc = .cbHolding r n) :
      Step V st .router { (addRouteBody st st.nextRoute) with mutex := none, nextRoute := st.nextRoute + 1, rpc := .callback r n }
  | deliver {k r n} (hr : st.rpc = .select) (ht : st.traffic[k]? = some (r, n)) (hh : r ∈ st.handlers) :
      Step V st (.deliver k) { st with traffic := st.traffic.eraseIdx k, invokedLog := st.invokedLog ++ [r], rpc := .callback r n }

theorem step_iff {V : Variant} {st st' : St} {a : Act} : step V st a = some st' ↔ Step V st a st' := by
  constructor
  · -- `cases h` closes the arms that return `none`; the others come in the order in which `step` lists them
    fun_cases step V st a <;> intro h <;> cases h
    · exact .lock ‹_› ‹_› ‹_›
    · exact .addRoute ‹_› ‹_›
    · exact .shutdown ‹_› ‹_›
    · exact .ret ‹_› ‹_› ‹_›
    · exact .take ‹_› ‹_›
    · exact .clear ‹_›
    · exact .drained ‹_› ‹_›
    · exact .serveAdd ‹_› ‹_›
    · exact .serveShutdown ‹_› ‹_›
    · exact .cbDone ‹_›
    · exact .cbLock ‹_› ‹_›
    · exact .cbAdd ‹_›
    · exact .deliver ‹_› ‹_› ‹_›
  · intro h
    cases h <;> simp [step, *]

theorem run_induction {P : St → Prop} {V : Variant} (hstep : ∀ st st' a, P st → step V st a = some st' → P st') :
    ∀ {as : List Act} {st st' : St}, P st → run V st as = some st' → P st'
  | [], _, _, hp, h => Option.some.inj h ▸ hp
  | a :: as, st, st', hp, h => by
    simp only [run] at h
    split at h
    · exact run_induction hstep (hstep st _ a hp ‹_›) h
    · cases h

/-- `wake` as one record update: the fields it leaves alone reduce by `rfl`, and `Inv (wake st)` can be given as `{ hi with … }` -/
theorem wake_eq (st : St) :
    wake st = { st with wakePending := true, wakeq := if st.wakePending then st.wakeq else st.wakeq + 1 } := by
  unfold wake
  split
  · cases st; simp_all
  · rfl

theorem addRouteBody_frame (st : St) (r : Nat) :
    (addRouteBody st r).rpc = st.rpc ∧ (addRouteBody st r).threads = st.threads ∧ (addRouteBody st r).handlers = st.handlers ∧
    (addRouteBody st r).invokedLog = st.invokedLog := by
  unfold addRouteBody
  split
  · exact ⟨rfl, rfl, rfl, rfl⟩
  · rw [wake_eq]; exact ⟨rfl, rfl, rfl, rfl⟩

/-- The wake-up sent, or the one still pending, covers the lengthened queue.  `f` is the shutdown flag afterwards: `st.flag` for
`addRoute`, `true` for `shutdown`. -/
theorem Inv.request {st : St} (hi : Inv st) (f : Bool) (m : RMsg) (hf : f = true ↔ st.flag = true ∨ m = .shutdown) :
    Inv (wake { st with flag := f, msgq := st.msgq ++ [m] }) := by
  rw [wake_eq]
  have hseen : 0 < (if st.wakePending then st.wakeq else st.wakeq + 1) ∨ st.rpc = .wakeRecv := by
    split
    · exact hi.pendingSeen ‹_›
    · exact .inl (Nat.succ_pos _)
  exact { hi with
    ackFlag := fun h => hf.mpr (.inl (hi.ackFlag h))
    noLost := fun _ => hseen.elim (fun h => .inr (.inr (.inr h))) (fun h => .inr (.inl h))
    pendingSeen := fun _ => hseen
    flagMsg := fun h => (hf.mp h).elim (fun h' => (hi.flagMsg h').imp_left (List.mem_append_left _))
      (fun e => .inl (e ▸ List.mem_append_right _ (List.mem_singleton_self _)))
    msgFlag := fun h => hf.mpr ((List.mem_append.mp h).imp hi.msgFlag fun h' => (List.mem_singleton.mp h').symm)
    waitFlag := fun i h => hf.mpr (.inl (hi.waitFlag i h)) }

theorem Inv.addRouteBody {st : St} (hi : Inv st) (r : Nat) : Inv (addRouteBody st r) := by
  unfold RSys.addRouteBody
  split
  · exact { hi with }
  · exact hi.request st.flag (.addRoute r) (by simp)

/-- Client thread `i` moves to `t'` and the mutex to `mx'`, over `core` (`st`, or `st` after the critical section's request).
Only four clauses are touched: `others` keeps `mutexRouter` and `mutexThread j` for `j ≠ i`; the other three hypotheses are the
clauses of `Inv` of those names for thread `i` in its new state. -/
theorem Inv.thread_move {core : St} (hc : Inv core) {i : Nat} {t' : Thread} {mx' : Option Nat}
    (others : ∀ k, k ≠ i + 1 → (mx' = some k ↔ core.mutex = some k)) (mutexThread : mx' = some (i + 1) ↔ t'.ph = .holding)
    (waitFlag : t'.ph = .waiting → core.flag = true) (busyTodo : t'.ph ≠ .ready → t'.todo ≠ []) :
    Inv (setThread { core with mutex := mx' } i t') := by
  refine { hc with mutexThread := fun j => ?_, mutexRouter := (others 0 (Nat.succ_ne_zero i).symm).trans hc.mutexRouter,
                   waitFlag := fun j => ?_, busyTodo := fun j => ?_ } <;>
    by_cases hji : j = i
  · subst hji; rw [thread_self]; exact mutexThread
  · rw [thread_other (h := hji)]; exact (others (j + 1) (by omega)).trans (hc.mutexThread j)
  · subst hji; rw [thread_self]; exact waitFlag
  · rw [thread_other (h := hji)]; exact hc.waitFlag j
  · subst hji; rw [thread_self]; exact busyTodo
  · rw [thread_other (h := hji)]; exact hc.busyTodo j

/-- `Inv` as it reads once the router's phase `p` is known.  The six clauses of `Inv` over `st.rpc` are five `match`es on `p`
(`ack` for `ackStopped` and `stoppedAck`, `queued` for `flagMsg`, `woken` for `noLost`, `seen` for `pendingSeen`, `holds` for
`mutexRouter`) that reduce, at a constructor, to a fact about the rest of the state or to `True`.  The other five keep name and
text, so `Inv.phase` / `Inv.of_phase` copy them by field name (`{ h with … }` does so across structures).

A move of the router is `{ hi.phase hr with … }` over the updated record.  A field that is not named is taken from the old view,
which Lean accepts iff it reads the same in both phases and speaks of untouched components (the two types have to be
definitionally equal once `match` and projections are reduced); if not, the error names the field (`__src✝.seen`).  A clause reads:

    ack    ackReleased, handlers      ackFlag      ackReleased, flag
    queued flag, msgq                 mutexThread  mutex, threads
    woken  msgq, wakeq                msgFlag      msgq, flag
    seen   wakePending, wakeq         waitFlag     threads, flag
    holds  mutex                      busyTodo     threads

`have := h.woken` shows the `match` unreduced; applying it, or `dsimp only at`, reduces it.
`generalizing := false`: the `match` would otherwise be abstracted over the fields above it, whose types mention `p`. -/
structure InvAt (st : St) (p : RPc) : Prop where
  ack : match p with
    | .stopped => st.ackReleased = true ∧ st.handlers = []
    | _ => st.ackReleased = false
  queued : match (generalizing := false) p with
    | .stopped => True
    | _ => st.flag = true → RMsg.shutdown ∈ st.msgq
  woken : match (generalizing := false) p with
    | .stopped | .wakeRecv | .draining => True
    | _ => st.msgq ≠ [] → 0 < st.wakeq
  seen : match (generalizing := false) p with
    | .wakeRecv => True
    | _ => st.wakePending = true → 0 < st.wakeq
  holds : match (generalizing := false) p with
    | .cbHolding .. => st.mutex = some 0
    | _ => st.mutex ≠ some 0
  ackFlag : st.ackReleased = true → st.flag = true
  mutexThread : ∀ i, st.mutex = some (i + 1) ↔ (st.threads i).ph = .holding
  msgFlag : RMsg.shutdown ∈ st.msgq → st.flag = true
  waitFlag : ∀ i, (st.threads i).ph = .waiting → st.flag = true
  busyTodo : ∀ i, (st.threads i).ph ≠ .ready → (st.threads i).todo ≠ []

theorem Inv.phase {st : St} {p : RPc} (h : Inv st) (hr : st.rpc = p) : InvAt st p := by
  subst hr
  exact { h with
    ack := by
      split
      · exact ⟨h.stoppedAck ‹_›, (h.ackStopped (h.stoppedAck ‹_›)).2⟩
      · exact Bool.eq_false_iff.mpr fun e => ‹¬ _› (h.ackStopped e).1
    queued := by
      split
      · trivial
      · exact fun e => (h.flagMsg e).resolve_right ‹_›
    woken := by
      split
      · trivial
      · trivial
      · trivial
      · exact fun e => (((h.noLost e).resolve_left ‹_›).resolve_left ‹_›).resolve_left ‹_›
    seen := by
      split
      · trivial
      · exact fun e => (h.pendingSeen e).resolve_right ‹_›
    holds := by
      split
      · exact h.mutexRouter.mpr ⟨_, _, ‹_›⟩
      · rename_i hne; exact fun e => let ⟨r, n, hr⟩ := h.mutexRouter.mp e; hne r n hr }

theorem Inv.of_phase {st : St} {p : RPc} (hr : st.rpc = p) (h : InvAt st p) : Inv st := by
  subst hr
  have hs : st.ackReleased = true → st.rpc = .stopped := fun e => by
    have := h.ack
    split at this
    · assumption
    · exact nomatch this ▸ e
  -- at `.stopped` the field `ack` reads `st.ackReleased = true ∧ st.handlers = []`
  have stopped : st.rpc = .stopped → InvAt st .stopped := fun e => e ▸ h
  exact { h with
    ackStopped := fun e => ⟨hs e, (stopped (hs e)).ack.2⟩
    stoppedAck := fun e => (stopped e).ack.1
    noLost := by
      have := h.woken
      split at this
      · exact fun _ => .inl ‹_›
      · exact fun _ => .inr (.inl ‹_›)
      · exact fun _ => .inr (.inr (.inl ‹_›))
      · exact fun e => .inr (.inr (.inr (this e)))
    pendingSeen := by
      have := h.seen
      split at this
      · exact fun _ => .inr ‹_›
      · exact fun e => .inl (this e)
    mutexRouter := by
      have := h.holds
      split at this
      · exact ⟨fun _ => ⟨_, _, ‹_›⟩, fun _ => this⟩
      · rename_i hne; exact ⟨fun e => absurd e this, fun ⟨r, n, e⟩ => (hne r n e).elim⟩
    flagMsg := by
      have := h.queued
      split at this
      · exact fun _ => .inr ‹_›
      · exact fun e => .inl (this e) }

theorem inv_init (threads : List (List Call)) (routes : List Nat) (traffic : List (Nat × Nat)) : Inv (init threads routes traffic) :=
  .of_phase rfl {
    ack := rfl
    queued := nofun
    woken := fun h => absurd rfl h
    seen := nofun
    holds := nofun
    ackFlag := nofun
    mutexThread := fun _ => ⟨nofun, nofun⟩
    msgFlag := nofun
    waitFlag := fun _ => nofun
    busyTodo := fun _ h => absurd rfl h }

theorem inv_step (st st' : St) (a : Act) (hi : Inv st) (h : step fixed st a = some st') : Inv st' := by
  cases step_iff.mp h with
  | lock _ ht hm =>
    exact hi.thread_move (others := fun k hk => by simp [hm, Ne.symm hk]) (mutexThread := by simp) (waitFlag := nofun)
      (busyTodo := by simp [ht])
  | @addRoute i r _ hp =>
    have hc := hi.addRouteBody r
    obtain ⟨-, hthreads, -⟩ := addRouteBody_frame st r
    have hm := (hc.mutexThread i).mpr (by rw [hthreads]; exact hp)
    exact hc.thread_move (others := fun k hk => by simp [hm, Ne.symm hk]) (mutexThread := by simp) (waitFlag := nofun)
      (busyTodo := by simp)
  | @shutdown i _ hp =>
    have hm := (hi.mutexThread i).mpr hp
    -- `mx'`, here and in `ret`, is what `if fixed.lockWhileWaiting …` reduces to: the only places where `fixed` matters
    split
    · exact hi.thread_move (mx' := none) (others := fun k hk => by simp [hm, Ne.symm hk]) (mutexThread := by simp)
        (waitFlag := fun _ => ‹_›) (busyTodo := by simp)
    · have hc := hi.request true .shutdown (by simp)
      rw [wake_eq] at hc ⊢   -- so that `mutex` and `flag` of the woken state reduce in the side conditions
      exact hc.thread_move (mx' := none) (others := fun k hk => by simp [hm, Ne.symm hk]) (mutexThread := by simp)
        (waitFlag := fun _ => rfl) (busyTodo := by simp)
  | @ret i _ _ hp =>
    exact hi.thread_move (mx' := st.mutex) (others := fun _ _ => Iff.rfl) (mutexThread := by simp [hi.mutexThread i, hp])
      (waitFlag := nofun) (busyTodo := by simp)
  | take hr => exact .of_phase rfl { hi.phase hr with woken := trivial, seen := trivial }
  | clear hr => exact .of_phase rfl { hi.phase hr with seen := nofun }
  | drained hr hq => exact .of_phase rfl { hi.phase hr with woken := fun h => absurd hq h }
  | serveAdd hr hq =>
    have ha := hi.phase hr
    -- the phase stays: `st'.rpc` is `st.rpc`, no constructor, so the view is taken at `.draining` by `hr`, not `rfl`
    exact .of_phase hr { ha with
      queued := fun hf => by simpa [hq] using ha.queued hf
      msgFlag := fun h => hi.msgFlag (by simp [hq, h]) }
  | serveShutdown hr hq =>
    have hf : st.flag = true := hi.msgFlag (by simp [hq])
    exact .of_phase rfl { hi.phase hr with ack := ⟨rfl, rfl⟩, queued := trivial, ackFlag := fun _ => hf, msgFlag := fun _ => hf }
  | cbDone hr | deliver hr => exact .of_phase rfl { hi.phase hr with }
  | cbLock hr hm =>
    exact .of_phase rfl { hi.phase hr with holds := rfl, mutexThread := fun i => by simp [← hi.mutexThread i, hm] }
  | cbAdd hr =>
    have hc := (hi.addRouteBody st.nextRoute).phase ((addRouteBody_frame st st.nextRoute).1.trans hr)
    exact .of_phase rfl { hc with holds := nofun, mutexThread := fun i => by simp [← hc.mutexThread i, hc.holds] }

theorem inv_run (st st' : St) (as : List Act) (hi : Inv st) (h : run fixed st as = some st') : Inv st' :=
  run_induction inv_step hi h

/-- **shutdown returns only when stopped** — the step by which any `shutdown()` call (first or late, from any thread)
returns is enabled only in states where the router thread has stopped and holds no callback. -/
theorem shutdown_returns_stopped (V : Variant) (st st' : St) (i : Nat) (hi : Inv st) (hw : (st.threads i).ph = .waiting)
    (h : step V st (.thread i) = some st') : st.rpc = .stopped ∧ st.handlers = [] ∧ st'.rpc = .stopped ∧ st'.handlers = [] := by
  cases step_iff.mp h with
  | ret _ _ ha => exact ⟨(hi.ackStopped ha).1, (hi.ackStopped ha).2, (hi.ackStopped ha).1, (hi.ackStopped ha).2⟩
  | lock hp | addRoute hp | shutdown hp => rw [hw] at hp; cases hp

theorem stopped_forever (V : Variant) (st st' : St) (a : Act) (hs : st.rpc = .stopped) (hh : st.handlers = [])
    (h : step V st a = some st') : st'.rpc = .stopped ∧ st'.handlers = [] ∧ st'.invokedLog = st.invokedLog := by
  cases step_iff.mp h with
  | lock | ret => exact ⟨hs, hh, rfl⟩
  | @addRoute _ r =>
    obtain ⟨hrpc, -, hhandlers, hlog⟩ := addRouteBody_frame st r
    exact ⟨hrpc.trans hs, hhandlers.trans hh, hlog⟩
  | shutdown =>
    split
    · exact ⟨hs, hh, rfl⟩
    · rw [wake_eq]; exact ⟨hs, hh, rfl⟩
  | take hr | clear hr | drained hr | serveAdd hr | serveShutdown hr | cbDone hr | cbLock hr | cbAdd hr | deliver hr =>
    rw [hs] at hr; cases hr

/-- **no stuck state** — in every reachable state of the repaired system in which some proxy call has not completed, some
thread can take a step: callers of `shutdown` (first or late), callers of `add_route` on client threads and callbacks
re-entering `add_route` on the router thread never wait for each other in a cycle. -/
theorem no_stuck (st : St) (hi : Inv st) (hnf : ¬ Finished st) : ∃ a st', step fixed st a = some st' := by
  suffices ∃ a st', Step fixed st a st' from this.imp fun _ => .imp fun _ => step_iff.mpr
  obtain ⟨i, hti⟩ : ∃ i, (st.threads i).todo ≠ [] := Classical.not_forall.mp hnf
  obtain ⟨c, rest, htd⟩ := List.exists_cons_of_ne_nil hti
  have holder_moves : ∀ j, (st.threads j).ph = .holding → ∃ a st', Step fixed st a st' := by
    intro j hj
    obtain ⟨c, rest, htd⟩ := List.exists_cons_of_ne_nil (hi.busyTodo j (by simp [hj]))
    cases c with
    | addRoute r => exact ⟨_, _, .addRoute hj htd⟩
    | shutdown => exact ⟨_, _, .shutdown hj htd⟩
  have owner_moves : ∀ o, st.mutex = some o → ∃ a st', Step fixed st a st' := by
    intro o hm
    cases o with
    | zero => obtain ⟨r, n, hr⟩ := hi.mutexRouter.mp hm; exact ⟨_, _, .cbAdd hr⟩
    | succ j => exact holder_moves j ((hi.mutexThread j).mp hm)
  cases hph : (st.threads i).ph with
  | holding => exact holder_moves i hph
  | ready =>
    cases hm : st.mutex with
    | none => exact ⟨_, _, .lock hph htd hm⟩
    | some o => exact owner_moves o hm
  | waiting =>
    cases hack : st.ackReleased with
    | true => exact ⟨_, _, .ret hph htd hack⟩
    | false =>
      -- the shutdown request is still queued, and the router is on its way to it
      have hns : st.rpc ≠ .stopped := fun e => by simp [hi.stoppedAck e] at hack
      have hin := (hi.flagMsg (hi.waitFlag i hph)).resolve_right hns
      have hne : st.msgq ≠ [] := List.ne_nil_of_mem hin
      cases hr : st.rpc with
      | stopped => exact absurd hr hns
      | select => exact ⟨_, _, .take hr (Nat.ne_of_gt ((hi.phase hr).woken hne))⟩
      | wakeRecv => exact ⟨_, _, .clear hr⟩
      | draining =>
        obtain ⟨m, q, hq⟩ := List.exists_cons_of_ne_nil hne
        cases m with
        | addRoute r => exact ⟨_, _, .serveAdd hr hq⟩
        | shutdown => exact ⟨_, _, .serveShutdown hr hq⟩
      | cbHolding r n => exact ⟨_, _, .cbAdd hr⟩
      | callback r n =>
        cases n with
        | zero => exact ⟨_, _, .cbDone hr⟩
        | succ n =>
          cases hm : st.mutex with
          | none => exact ⟨_, _, .cbLock hr hm⟩
          | some o => exact owner_moves o hm

/-- For every variant: wake-ups are coalesced through `wakePending`, so the channel holds at most one. -/
structure WInv (st : St) : Prop where
  atMostOne : st.wakeq ≤ 1
  queuedPending : 0 < st.wakeq → st.wakePending = true
  recvPending : st.rpc = .wakeRecv → st.wakePending = true ∧ st.wakeq = 0

theorem winv_init (threads : List (List Call)) (routes : List Nat) (traffic : List (Nat × Nat)) : WInv (init threads routes traffic) :=
  ⟨Nat.zero_le 1, nofun, nofun⟩

theorem WInv.frame {st st' : St} (h : WInv st) (hq : st'.wakeq = st.wakeq) (hp : st'.wakePending = st.wakePending)
    (hr : st'.rpc = .wakeRecv → st.rpc = .wakeRecv) : WInv st' :=
  ⟨hq ▸ h.atMostOne, hq ▸ hp ▸ h.queuedPending, fun e => hq ▸ hp ▸ h.recvPending (hr e)⟩

theorem WInv.wake {st : St} (h : WInv st) : WInv (wake st) := by
  unfold RSys.wake
  split
  · exact h
  · rename_i hp
    have hz : st.wakeq = 0 := Nat.eq_zero_of_not_pos fun hq => hp (h.queuedPending hq)
    exact { atMostOne := by simp [hz]
            queuedPending := fun _ => rfl
            recvPending := fun hr => absurd (h.recvPending hr).1 hp }

theorem WInv.addRouteBody {st : St} (h : WInv st) (r : Nat) : WInv (addRouteBody st r) := by
  unfold RSys.addRouteBody
  split
  · exact h.frame rfl rfl id
  · exact WInv.wake (h.frame rfl rfl id)

theorem winv_step (V : Variant) (st st' : St) (a : Act) (hw : WInv st) (h : step V st a = some st') : WInv st' := by
  cases step_iff.mp h with
  | lock | ret | serveAdd => exact hw.frame rfl rfl id
  | addRoute => exact (hw.addRouteBody _).frame rfl rfl id
  | shutdown =>
    split
    · exact hw.frame rfl rfl id
    · -- frame (flag and queue), wake, frame (mutex and thread `i`)
      exact (WInv.wake (st := { st with flag := true, msgq := st.msgq ++ [.shutdown] }) (hw.frame rfl rfl id)).frame rfl rfl id
  | take hr hq =>
    have h0 : st.wakeq - 1 = 0 := by have := hw.atMostOne; omega
    exact { atMostOne := h0 ▸ Nat.zero_le 1
            queuedPending := fun hp => absurd hp (h0 ▸ Nat.lt_irrefl 0)
            recvPending := fun _ => ⟨hw.queuedPending (Nat.pos_of_ne_zero hq), h0⟩ }
  | clear hr => exact ⟨hw.atMostOne, fun hp => by simp [(hw.recvPending hr).2] at hp, nofun⟩
  | drained | serveShutdown | cbDone | cbLock | deliver => exact hw.frame rfl rfl nofun
  | cbAdd => exact (hw.addRouteBody _).frame rfl rfl nofun

theorem winv_run (V : Variant) (st st' : St) (as : List Act) (hw : WInv st) (h : run V st as = some st') : WInv st' :=
  run_induction (winv_step V) hw h

end RSys
