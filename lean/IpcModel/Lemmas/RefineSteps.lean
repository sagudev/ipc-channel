import IpcModel.Lemmas.RefineProof
/-! The two destroying branches of `step` (a failed `send`, `dropReceiver`) as instances of `rel_kill`. -/
namespace Refine
open Ideal (Handle Msg)
open ListLookup

/-- `send` to a receiver that no longer exists: the embedded receivers are closed / destroyed -/
theorem rel_send_fail {u : Unix.St} {i : Ideal.St} (hR : Rel u i) {c tag : Nat} {hs : List Handle} {fuel : Nat}
    (hv : Unix.validOp u (.send c tag hs) = true) :
    Rel (Unix.unhold u hs) (Ideal.dropHandles fuel (Ideal.markInMsg i hs) hs) :=
  rel_kill u _ i (Ideal.markInMsg i hs) _ hs hR (fun x hx => (valid_send hv x hx).1) (Unix.unhold_get u hs)
    (fun d => ⟨.inMsg, nofun, Ideal.markInMsg_get hs i d⟩) (Unix.unhold_len u hs) (by rw [dropHandles_len, Ideal.markInMsg_len])
    (dropHandles_char fuel _ hs)

/-- `dropReceiver`: the specification's step is one round of `dropHandles` on the work list `[rcv c]` -/
theorem rel_dropReceiver {u : Unix.St} {i : Ideal.St} (hR : Rel u i) {c : Nat} {uc : Unix.Chan} {ic : Ideal.Chan} {fuel : Nat}
    (huc : u.chans[c]? = some uc) (hic : i.chans[c]? = some ic) (hheld : uc.held = true) :
    Rel (Unix.modify u c fun ch => { ch with held := false })
        (Ideal.dropHandles fuel (Ideal.modify i c fun ch => { ch with rx := .dropped, queue := [] }) (ic.queue.flatMap (·.handles))) := by
  have hunf : Ideal.dropHandles fuel (Ideal.modify i c fun ch => { ch with rx := .dropped, queue := [] }) (ic.queue.flatMap (·.handles))
      = Ideal.dropHandles (fuel + 1) (Ideal.modify i c fun ch => { ch with rx := .dropped }) [Handle.rcv c] := by
    have hi1c : (Ideal.modify i c fun ch => { ch with rx := .dropped }).chans[c]? = some { ic with rx := .dropped } := by
      rw [Ideal.modify_get, hic, Option.map_some, if_pos rfl]
    simp only [Ideal.dropHandles, hi1c, List.append_nil]
    simp only [Ideal.modify, List.modify_modify_eq]
    rfl
  have hw : ∀ d, [Handle.rcv c].contains (Handle.rcv d) = decide (c = d) := fun d => by simp [eq_comm]
  rw [hunf]
  refine rel_kill u _ i _ _ [Handle.rcv c] hR ?_ ?_ ?_ (Unix.modify_len ..)
    (by rw [dropHandles_len, Ideal.modify_len]) (dropHandles_char (fuel + 1) _ _)
  · intro x hx
    cases List.mem_singleton.mp hx
    exact (rootU_iff u c).mpr ⟨uc, huc, hheld⟩
  · intro d; simp only [Unix.modify_get, hw, decide_eq_true_eq]
  · intro d; exact ⟨.dropped, nofun, by simp only [Ideal.modify_get, hw, decide_eq_true_eq]⟩

end Refine
