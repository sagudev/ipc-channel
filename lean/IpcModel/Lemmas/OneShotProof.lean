import IpcModel.OneShot
import IpcModel.Lemmas.ListLookup
/-! `OneShot.step` is read through one inversion, `Step` / `step_spec`; on it rest what one operation does to a connection's
queue (`Step.fifo`), to the servers' names (`Step.names`) and, in `RegRefine`, to the in-process registry. -/
namespace OneShot
open ListLookup

def Qc (st : St) (c : Nat) : Option (List Nat) := (st.conns[c]?).map (·.queue)

theorem Qc_congr {st : St} {cs : List Conn} (h : st.conns.map (·.queue) = cs.map (·.queue)) (c : Nat) :
    Qc st c = (cs[c]?).map (·.queue) := by
  simp only [Qc, ← List.getElem?_map, h]

theorem set_Qc_other (st : St) (cs : List Conn) (c c' : Nat) (x : Conn) (h : c' ≠ c) :
    (((st.conns.set c' x)[c]?).map (·.queue)) = (st.conns[c]?).map (·.queue) := by
  simp [List.getElem?_set_ne h]

theorem retire_queues (st : St) (s : Nat) : (retire st s).conns.map (·.queue) = st.conns.map (·.queue) := by
  unfold retire
  cases st.srvs[s]? with
  | none => rfl
  | some sv =>
    exact List.foldlRecOn sv.backlog _ (motive := fun cs : List Conn => cs.map (·.queue) = st.conns.map (·.queue)) rfl
      fun cs h c _ => (map_modify_of_eq _ (by intro _; rfl) cs c).trans h

theorem retire_Qc (st : St) (s c : Nat) : Qc (retire st s) c = Qc st c := Qc_congr (retire_queues st s) c

theorem retire_srvs {st : St} {s : Nat} {sv : Srv} (h : st.srvs[s]? = some sv) :
    (retire st s).srvs = st.srvs.set s { sv with fdOpen := false, fsEntry := false, listening := false, backlog := [] } := by
  simp only [retire, h]

theorem retire_nextName (st : St) (s : Nat) : (retire st s).nextName = st.nextName := by
  unfold retire; cases st.srvs[s]? <;> rfl

theorem retire_names (st : St) (s : Nat) : (retire st s).srvs.map (·.name) = st.srvs.map (·.name) := by
  cases hs : st.srvs[s]? with
  | none => simp only [retire, hs]
  | some sv => rw [retire_srvs hs]; exact map_set_of_eq _ hs (by rfl)

/-- descriptor closed, nothing left in the file system -/
def Gone (st : St) (s : Nat) : Prop :=
  ∃ sv, st.srvs[s]? = some sv ∧ sv.fdOpen = false ∧ sv.fsEntry = false ∧ sv.listening = false

theorem retire_gone {st : St} {s : Nat} (h : s < st.srvs.length) : Gone (retire st s) s :=
  ⟨_, by rw [retire_srvs (List.getElem?_eq_getElem h), List.getElem?_set_self h], rfl, rfl, rfl⟩

/-- the answers with which an operation leaves the state as it is -/
def refusals : Op → List Res
  | .new _ => []
  | .connect _ => [.err]
  | .csend _ _ => [.invalid, .err]
  | .accept _ => [.invalid, .blocks]
  | .recv _ => [.invalid, .empty, .disc]
  | _ => [.invalid]

inductive Step (st : St) : Op → St → Res → Prop
  | stay {op r} : r ∈ refusals op → Step st op st r
  | new : Step st (.new 0) { st with srvs := st.srvs ++ [⟨st.nextName, true, true, true, []⟩], nextName := st.nextName + 1 }
      (.server st.srvs.length st.nextName)
  | newFail {k} : k ≠ 0 → Step st (.new k) { st with nextName := st.nextName + 1 } .err
  | connect {n s} : st.srvs.findIdx? (fun sv => sv.name == n && sv.listening && sv.fdOpen) = some s →
      Step st (.connect n)
        { st with conns := st.conns ++ [⟨[], true, false, false, false⟩],
                  srvs := st.srvs.modify s fun sv => { sv with backlog := sv.backlog ++ [st.conns.length] } } (.conn st.conns.length)
  | csend {c tag x} : st.conns[c]? = some x → x.clientOpen = true → x.reset = false →
      Step st (.csend c tag) { st with conns := st.conns.set c { x with queue := x.queue ++ [tag] } } .ok
  | cclose {c x} : st.conns[c]? = some x → Step st (.cclose c) { st with conns := st.conns.set c { x with clientOpen := false } } .ok
  | accept {s sv c rest x t q} : st.srvs[s]? = some sv → sv.fdOpen = true → sv.listening = true → sv.backlog = c :: rest →
      st.conns[c]? = some x → x.queue = t :: q →
      Step st (.accept s)
        (retire { st with conns := st.conns.set c { x with queue := q, accepted := true, rxOpen := true },
                          srvs := st.srvs.set s { sv with backlog := rest } } s) (.accepted c t)
  | acceptGone {s sv c rest x} : st.srvs[s]? = some sv → sv.fdOpen = true → sv.listening = true → sv.backlog = c :: rest →
      st.conns[c]? = some x → x.queue = [] → x.clientOpen = false →
      Step st (.accept s)
        (retire { st with conns := st.conns.set c { x with accepted := true, reset := true },
                          srvs := st.srvs.set s { sv with backlog := rest } } s) .err
  | dropServer {s sv} : st.srvs[s]? = some sv → sv.fdOpen = true → Step st (.dropServer s) (retire st s) .ok
  | recv {c x t q} : st.conns[c]? = some x → x.accepted = true → x.rxOpen = true → x.queue = t :: q →
      Step st (.recv c) { st with conns := st.conns.set c { x with queue := q } } (.msg t)
  | dropRx {c x} : st.conns[c]? = some x → x.rxOpen = true →
      Step st (.dropRx c) { st with conns := st.conns.set c { x with rxOpen := false, reset := true, queue := [] } } .ok

theorem step_spec (st : St) (op : Op) : Step st op (step st op).1 (step st op).2 := by
  have guard {a b : Bool} (h : ¬(!(a && b)) = true) : a = true ∧ b = true := by simpa using h
  -- the 28 branches of `step`, numbered in the order of the definition
  fun_cases step st op
  case case1 => exact .new
  case case2 h => exact .newFail h
  case case3 h _ => exact .connect h
  case case8 hx h1 h2 => exact .csend hx (by simpa using h1) (by simpa using h2)
  case case10 hx => exact .cclose hx
  case case15 hs ho _ _ hb _ hx _ _ hq _ => exact .accept hs (guard ho).1 (guard ho).2 hb hx hq
  case case17 hs ho _ _ hb _ hx hq hc _ => exact .acceptGone hs (guard ho).1 (guard ho).2 hb hx hq (by simpa using hc)
  case case19 hs ho => exact .dropServer hs ho
  case case23 hx ho _ _ hq => exact .recv hx (guard ho).1 (guard ho).2 hq
  case case27 hx ho => exact .dropRx hx ho
  -- the other eighteen return the state as it was
  all_goals exact .stay (by simp [refusals])

def runFrom (st : St) : List Op → St × List (Op × Res)
  | [] => (st, [])
  | op :: ops => let r := step st op; let rest := runFrom r.1 ops; (rest.1, (op, r.2) :: rest.2)

def sentOn (c : Nat) (h : List (Op × Res)) : List Nat :=
  h.flatMap fun | (.csend c' tag, .ok) => if c' = c then [tag] else [] | _ => []
def recvdOn (c : Nat) (h : List (Op × Res)) : List Nat :=
  h.flatMap fun
    | (.accept _, .accepted c' t) => if c' = c then [t] else []
    | (.recv c', .msg t) => if c' = c then [t] else []
    | _ => []
def rxDropped (c : Nat) (ops : List Op) : Prop := Op.dropRx c ∈ ops

theorem rxDropped_cons {c : Nat} {op : Op} {ops : List Op} : rxDropped c (op :: ops) ↔ Op.dropRx c = op ∨ rxDropped c ops :=
  List.mem_cons

theorem sentOn_cons (c : Nat) (e : Op × Res) (h : List (Op × Res)) : sentOn c (e :: h) = sentOn c [e] ++ sentOn c h :=
  List.flatMap_append (xs := [e])
theorem recvdOn_cons (c : Nat) (e : Op × Res) (h : List (Op × Res)) : recvdOn c (e :: h) = recvdOn c [e] ++ recvdOn c h :=
  List.flatMap_append (xs := [e])

theorem sentOn_send (c c' tag : Nat) : sentOn c [(.csend c' tag, .ok)] = if c' = c then [tag] else [] :=
  List.flatMap_singleton _ _
theorem recvdOn_accept (c s c' t : Nat) : recvdOn c [(.accept s, .accepted c' t)] = if c' = c then [t] else [] :=
  List.flatMap_singleton _ _
theorem recvdOn_recv (c c' t : Nat) : recvdOn c [(.recv c', .msg t)] = if c' = c then [t] else [] :=
  List.flatMap_singleton _ _

theorem refused_not_counted {op : Op} {r : Res} (h : r ∈ refusals op) (c : Nat) :
    sentOn c [(op, r)] = [] ∧ recvdOn c [(op, r)] = [] := by
  cases op <;> simp only [refusals, List.mem_cons, List.not_mem_nil, or_false] at h
  -- `h` names the up to three refusals of `op`; none is `ok`, `accepted` or `msg`, so both lists compute to `[]`
  all_goals rcases h with rfl | rfl | rfl <;> exact ⟨rfl, rfl⟩

theorem fifo_kept {st st' : St} {e : Op × Res} {c : Nat} {q : List Nat} (hQ : Qc st c = some q) (h1 : Qc st' c = Qc st c)
    (h2 : sentOn c [e] = [] ∧ recvdOn c [e] = []) : ∃ q', Qc st' c = some q' ∧ recvdOn c [e] ++ q' = q ++ sentOn c [e] :=
  ⟨_, h1 ▸ hQ, by rw [h2.1, h2.2]; exact (List.append_nil _).symm⟩

/-- one connection `c'` rewritten: if it is `c` the event accounts for the change, if not it is not counted -/
theorem fifo_touched {st st' : St} {e : Op × Res} {c : Nat} {q : List Nat} (hQ : Qc st c = some q) {c' : Nat} {x x' : Conn}
    (hs : st'.conns.map (·.queue) = (st.conns.set c' x').map (·.queue)) (hx : st.conns[c']? = some x)
    (heq : c' = c → recvdOn c [e] ++ x'.queue = x.queue ++ sentOn c [e])
    (hne : c' ≠ c → sentOn c [e] = [] ∧ recvdOn c [e] = []) :
    ∃ q', Qc st' c = some q' ∧ recvdOn c [e] ++ q' = q ++ sentOn c [e] := by
  have hs := Qc_congr hs c
  by_cases hcc : c' = c
  · cases hcc
    obtain rfl : x.queue = q := by rw [Qc, hx] at hQ; exact Option.some.inj hQ
    exact ⟨x'.queue, by rw [hs, List.getElem?_set_self (lt_of_get hx)]; rfl, heq rfl⟩
  · exact fifo_kept hQ (hs.trans (set_Qc_other st [] c c' x' hcc)) (hne hcc)

/-- **per-connection FIFO, one step**: the equation of `C08_orders` for the single event `(op, r)` -/
theorem Step.fifo {st st' : St} {op : Op} {r : Res} (h : Step st op st' r) {c : Nat} {q : List Nat} (hQ : Qc st c = some q)
    (hnd : op ≠ .dropRx c) :
    ∃ q', Qc st' c = some q' ∧ recvdOn c [(op, r)] ++ q' = q ++ sentOn c [(op, r)] := by
  cases h with
  | stay hr => exact fifo_kept hQ rfl (refused_not_counted hr c)
  | new | newFail => exact fifo_kept hQ rfl ⟨rfl, rfl⟩
  | connect =>
    obtain ⟨x, hx, -⟩ := Option.map_eq_some_iff.mp hQ
    exact fifo_kept hQ (congrArg (Option.map _) ((get_append_left hx _).trans hx.symm)) ⟨rfl, rfl⟩
  | dropServer => exact fifo_kept hQ (retire_Qc _ _ _) ⟨rfl, rfl⟩
  | cclose hx => exact fifo_touched hQ rfl hx (fun _ => (List.append_nil _).symm) (fun _ => ⟨rfl, rfl⟩)
  | acceptGone _ _ _ _ hx => exact fifo_touched hQ (retire_queues _ _) hx (fun _ => (List.append_nil _).symm) (fun _ => ⟨rfl, rfl⟩)
  | dropRx hx => exact fifo_touched hQ rfl hx (fun e => absurd (e ▸ rfl) hnd) (fun _ => ⟨rfl, rfl⟩)
  | csend hx =>
    exact fifo_touched hQ rfl hx (fun e => by rw [sentOn_send, if_pos e]; rfl) (fun ne => ⟨by rw [sentOn_send, if_neg ne], rfl⟩)
  | recv hx _ _ hq =>
    exact fifo_touched hQ rfl hx (fun e => by rw [recvdOn_recv, if_pos e, hq]; exact (List.append_nil _).symm)
      (fun ne => ⟨rfl, by rw [recvdOn_recv, if_neg ne]⟩)
  | accept _ _ _ _ hx hq =>
    exact fifo_touched hQ (retire_queues _ _) hx (fun e => by rw [recvdOn_accept, if_pos e, hq]; exact (List.append_nil _).symm)
      (fun ne => ⟨rfl, by rw [recvdOn_accept, if_neg ne]⟩)

theorem conn_step (st : St) (op : Op) (c : Nat) (q : List Nat) (hQ : Qc st c = some q) (hnd : op ≠ .dropRx c) :
    ∃ q', Qc (step st op).1 c = some q' ∧ recvdOn c [(op, (step st op).2)] ++ q' = q ++ sentOn c [(op, (step st op).2)] :=
  (step_spec st op).fifo hQ hnd

def NamesOk (st : St) : Prop := (st.srvs.map (·.name)).Nodup ∧ ∀ n ∈ st.srvs.map (·.name), n < st.nextName

theorem Step.names {st st' : St} {op : Op} {r : Res} (hs : Step st op st' r) (h : NamesOk st) : NamesOk st' := by
  have same : st'.srvs.map (·.name) = st.srvs.map (·.name) → st'.nextName = st.nextName → NamesOk st' :=
    fun hm hn => by unfold NamesOk; rw [hm, hn]; exact h
  cases hs with
  | stay | csend | cclose | recv | dropRx => exact same rfl rfl
  | new =>
    simp only [NamesOk, List.map_append, List.map_cons, List.map_nil]
    exact nodup_lt_concat h.1 h.2
  | newFail => exact ⟨h.1, fun n hn => Nat.lt_succ_of_lt (h.2 n hn)⟩
  | connect => exact same (map_modify_of_eq _ (by intro _; rfl) _ _) rfl
  | accept hs | acceptGone hs => exact same ((retire_names _ _).trans (map_set_of_eq _ hs (by rfl))) (retire_nextName _ _)
  | dropServer => exact same (retire_names _ _) (retire_nextName _ _)

theorem names_step (st : St) (op : Op) (h : NamesOk st) : NamesOk (step st op).1 := (step_spec st op).names h

theorem names_run (ops : List Op) : NamesOk (run ops).1 :=
  List.foldlRecOn ops _ (motive := fun (acc : St × List Res) => NamesOk acc.1) ⟨List.nodup_nil, by simp⟩ fun _ h op _ => names_step _ op h

end OneShot
