import IpcModel.Lemmas.RouterProof
/-! The router thread's dispatch, end to end: over any event stream that does not close the wake channel, the effects on one
registered route are the invocations for its id's messages, in order, then one drop at its closure. -/
namespace Router
open ListLookup

def isRoute (r : Nat) : Eff → Bool
  | .invoke r' _ => r' == r
  | .dropH r' => r' == r
  | _ => false
def routeLog (r : Nat) (log : List Eff) : List Eff := log.filter (isRoute r)

def msgqRoutes (q : List RMsg) : List Nat := q.filterMap fun | .addRoute r => some r | .shutdown _ => none

/-- the routes the router knows of -/
def routes (st : St) : List Nat := st.handlers.map (·.2) ++ msgqRoutes st.msgq

/-- the last three fields are `Fresh st`, `(routes st).Nodup` and `NoShutdown st.msgq` written out, and are used as such -/
structure RInv (st : St) : Prop where
  running : st.stopped = false
  fresh : ∀ p ∈ st.handlers, p.1 < st.nextId
  routesNodup : (st.handlers.map (·.2) ++ msgqRoutes st.msgq).Nodup
  noShutdown : ∀ m ∈ st.msgq, ∀ c, m ≠ .shutdown c

/-- the tags of `id`'s messages up to its closure, and whether it was closed -/
def proj (id : Nat) : List Ev → List Nat × Bool
  | [] => ([], false)
  | .msg i t :: r => if i = id then ((t :: (proj id r).1), (proj id r).2) else proj id r
  | .closed i :: r => if i = id then ([], true) else proj id r
  | _ :: r => proj id r

theorem lookup_append_left' {h g : List (Nat × Nat)} {id r : Nat} (hl : lookup h id = some r) : lookup (h ++ g) id = some r := by
  rw [lookup_append, hl]; rfl

theorem RInv.mem_inj {st : St} (hi : RInv st) {i j s : Nat} (h1 : (i, s) ∈ st.handlers) (h2 : (j, s) ∈ st.handlers) : i = j :=
  congrArg Prod.fst (inj_of_nodup_map (List.nodup_append.mp hi.routesNodup).1 h1 h2 rfl)

theorem routeLog_append (r : Nat) (a b : List Eff) : routeLog r (a ++ b) = routeLog r a ++ routeLog r b := by
  simp [routeLog]

theorem proj_other {id : Nat} {e : Ev} (hm : ∀ t, e ≠ .msg id t) (hc : e ≠ .closed id) (es : List Ev) : proj id (e :: es) = proj id es := by
  cases e with
  | msg i t => exact if_neg fun (h : i = id) => hm t (h ▸ rfl)
  | closed i => exact if_neg fun (h : i = id) => hc (h ▸ rfl)
  | _ => rfl

theorem drainQ_values (q : List RMsg) (st : St) (hns : NoShutdown q) :
    (drainQ st q).log = st.log ∧ (drainQ st q).handlers.map (·.2) = st.handlers.map (·.2) ++ msgqRoutes q ∧ (drainQ st q).msgq = [] ∧
    (drainQ st q).stopped = st.stopped := by
  induction q generalizing st with
  | nil => simp [drainQ, msgqRoutes]
  | cons m q ih =>
    obtain ⟨hm, hq⟩ := noShutdown_cons.mp hns
    cases m with
    | shutdown c => exact absurd rfl (hm c)
    | addRoute r =>
      obtain ⟨h1, h2, h3, h4⟩ := ih { st with handlers := st.handlers ++ [(st.nextId, r)], nextId := st.nextId + 1 } hq
      exact ⟨h1, by rw [drainQ, h2]; simp [msgqRoutes], h3, h4⟩

theorem step_keeps {st : St} {e : Ev} (hns : NoShutdown st.msgq) (he : e ≠ .wakeClosed) :
    (routes (step fixed st e)).Sublist (routes st) ∧ NoShutdown (step fixed st e).msgq ∧ (step fixed st e).stopped = st.stopped ∧
    ∀ id, id < st.nextId → e ≠ .closed id → lookup (step fixed st e).handlers id = lookup st.handlers id := by
  rcases Bool.eq_false_or_eq_true st.stopped with hs | hs
  · rw [step_stopped fixed st e hs]; exact ⟨.refl _, hns, rfl, fun _ _ _ => rfl⟩
  by_cases hok : okEv st e
  case neg => rw [step_not_ok fixed hs hok]; exact ⟨.refl _, hns, rfl, fun _ _ _ => rfl⟩
  cases e with
  | wakeClosed => exact absurd rfl he
  | wake =>
    rw [step_wake_fixed hs]
    obtain ⟨-, d2, d3, d4⟩ := drainQ_values st.msgq st hns
    refine ⟨?_, d3 ▸ nofun, d4, fun id hid _ => drainQ_lookup _ _ hns hid⟩
    rw [routes, d2, d3]; exact List.append_nil _ ▸ .refl _
  | msg i t =>
    obtain ⟨r', hl⟩ := Option.isSome_iff_exists.mp hok
    rw [step_msg_some fixed t hs hl]; exact ⟨.refl _, hns, rfl, fun _ _ _ => rfl⟩
  | closed i =>
    obtain ⟨r', hl⟩ := Option.isSome_iff_exists.mp hok
    rw [step_closed_some fixed hs hl]
    exact ⟨.append (.map _ List.filter_sublist) (.refl _), hns, rfl, fun id _ hne =>
      lookup_filter.trans (if_neg fun (h : id = i) => hne (h ▸ rfl))⟩
  | badFwd i =>
    obtain ⟨r', hl⟩ := Option.isSome_iff_exists.mp hok
    rw [step_badFwd_some hs hl]; exact ⟨.refl _, hns, rfl, fun _ _ _ => rfl⟩

theorem RInv.step {st : St} (hi : RInv st) {e : Ev} (he : e ≠ .wakeClosed) :
    RInv (step fixed st e) ∧
    ∀ {id r}, lookup st.handlers id = some r → e ≠ .closed id → lookup (step fixed st e).handlers id = some r :=
  have ⟨hsub, hns, hrun, hsame⟩ := step_keeps (e := e) hi.noShutdown he
  ⟨{ running := hrun.trans hi.running, fresh := step_fresh fixed st e hi.fresh, routesNodup := hi.routesNodup.sublist hsub,
     noShutdown := hns },
    fun hl hc => (hsame _ (hi.fresh _ (mem_of_assoc hl)) hc).trans hl⟩

theorem step_routeLog {st : St} {r : Nat} {e : Ev} (hns : NoShutdown st.msgq) (he : e ≠ .wakeClosed)
    (hr : ∀ i, lookup st.handlers i = some r → (∀ t, e ≠ .msg i t) ∧ e ≠ .closed i) :
    routeLog r (step fixed st e).log = routeLog r st.log := by
  cases hs : st.stopped with
  | true => rw [step_stopped fixed st e hs]
  | false =>
    by_cases hok : okEv st e
    case neg => rw [step_not_ok fixed hs hok]; simp [routeLog, isRoute]
    cases e with
    | wakeClosed => exact absurd rfl he
    | wake => rw [step_wake_fixed hs, (drainQ_values st.msgq st hns).1]
    | msg i t =>
      obtain ⟨r', hl⟩ := Option.isSome_iff_exists.mp hok
      have : r' ≠ r := fun h => (hr i (h ▸ hl)).1 t rfl
      rw [step_msg_some fixed t hs hl]; simp [routeLog, isRoute, this]
    | closed i =>
      obtain ⟨r', hl⟩ := Option.isSome_iff_exists.mp hok
      have : r' ≠ r := fun h => (hr i (h ▸ hl)).2 rfl
      rw [step_closed_some fixed hs hl]; simp [routeLog, isRoute, this]
    | badFwd i =>
      obtain ⟨r', hl⟩ := Option.isSome_iff_exists.mp hok
      rw [step_badFwd_some hs hl]

theorem run_gone (es : List Ev) {st : St} {r : Nat} (hg : r ∉ routes st) (hns : NoShutdown st.msgq) (hnc : Ev.wakeClosed ∉ es) :
    routeLog r (run fixed st es).log = routeLog r st.log := by
  induction es generalizing st with
  | nil => rfl
  | cons e t ih =>
    have he : e ≠ .wakeClosed := fun h => hnc (h ▸ List.mem_cons_self)
    obtain ⟨hsub, hns', -⟩ := step_keeps hns he
    rw [run_cons, ih (fun h => hg (hsub.subset h)) hns' (fun h => hnc (List.mem_cons_of_mem _ h))]
    exact step_routeLog hns he fun i hl => absurd (List.mem_append_left _ (List.mem_map.mpr ⟨_, mem_of_assoc hl, rfl⟩)) hg

/-- **end-to-end dispatch** (`C07_dispatch`) -/
theorem dispatch_run (es : List Ev) {st : St} (hi : RInv st) {id r : Nat} (hl : lookup st.handlers id = some r) (hnc : Ev.wakeClosed ∉ es) :
    routeLog r (run fixed st es).log
      = routeLog r st.log ++ (proj id es).1.map (Eff.invoke r) ++ (if (proj id es).2 then [Eff.dropH r] else []) := by
  induction es generalizing st with
  | nil => simp [run, proj]
  | cons e t ih =>
    have hnc' : Ev.wakeClosed ∉ t := fun h => hnc (List.mem_cons_of_mem _ h)
    have he : e ≠ .wakeClosed := fun h => hnc (h ▸ List.mem_cons_self)
    rw [run_cons]
    by_cases hc : e = .closed id
    · -- the closure: from here on the route is unknown to the router
      subst hc
      rw [step_closed_some fixed hi.running hl]
      have hg : r ∉ routes { st with handlers := st.handlers.filter (·.1 ≠ id), log := st.log ++ [.dropH r] } := by
        intro hm
        rcases List.mem_append.mp hm with hm | hm
        · -- still registered, under some `j ≠ id`: but `r` is registered under one id only
          obtain ⟨⟨j, s⟩, hx, rfl⟩ := List.mem_map.mp hm
          obtain ⟨hx, hj⟩ := List.mem_filter.mp hx
          exact of_decide_eq_true hj (hi.mem_inj hx (mem_of_assoc hl))
        · -- queued for registration: but no route is both registered and queued
          exact (List.nodup_append.mp hi.routesNodup).2.2 r (List.mem_map.mpr ⟨_, mem_of_assoc hl, rfl⟩) r hm rfl
      rw [run_gone t hg hi.noShutdown hnc']
      simp [proj, routeLog, isRoute]
    -- any other event leaves `id` registered for `r`
    obtain ⟨hi', hreg⟩ := hi.step he
    rw [ih hi' (hreg hl hc) hnc']
    by_cases hm : ∃ tg, e = .msg id tg
    · obtain ⟨tg, rfl⟩ := hm
      rw [step_msg_some fixed tg hi.running hl]
      simp [proj, routeLog, isRoute]
    · have hm : ∀ tg, e ≠ .msg id tg := fun tg h => hm ⟨tg, h⟩
      rw [proj_other hm hc, step_routeLog hi.noShutdown he fun i hli => hi.mem_inj (mem_of_assoc hli) (mem_of_assoc hl) ▸ ⟨hm, hc⟩]

end Router
