import IpcModel.Wire
import IpcModel.Lemmas.ListLookup
/-! Round trip, totality and soundness of the wire decoder, all by induction on the fuel, for `dec` and its tuple helper
`dec.decT` together (the sequence helper `dec.decN` is `dec.decT` on a replicated schema).  The three-way `match` by which
`dec` passes on the result of a recursive call is named (`DRes.map`, `DRes.bind`) so that lemmas can speak about it. -/
namespace Wire
open ListLookup

namespace DRes

def map {α β} (g : α → β) : DRes α → DRes β
  | ok v r sl => ok (g v) r sl
  | err => err
  | panic => panic

def bind {α β} (x : DRes α) (k : α → Bytes → Slots → DRes β) : DRes β :=
  match x with
  | ok v r sl => k v r sl
  | err => err
  | panic => panic

def Holds {α} (P : α → Slots → Prop) : DRes α → Prop
  | ok v _ sl => P v sl
  | err => True
  | panic => False

variable {α β : Type} {P : α → Slots → Prop} {Q : β → Slots → Prop} {x : DRes α}

theorem Holds.ne_panic (h : x.Holds P) : x ≠ panic := fun e => by subst e; exact h

theorem Holds.of_ok {v r sl} (h : x.Holds P) (e : x = ok v r sl) : P v sl := by subst e; exact h

theorem Holds.map {g : α → β} (h : x.Holds P) (hg : ∀ v sl, P v sl → Q (g v) sl) : (x.map g).Holds Q := by
  cases x with
  | ok v r sl => exact hg v sl h
  | err => trivial
  | panic => exact h

theorem Holds.bind {k : α → Bytes → Slots → DRes β} (h : x.Holds P) (hk : ∀ v r sl, P v sl → (k v r sl).Holds Q) :
    (x.bind k).Holds Q := by
  cases x with
  | ok v r sl => exact hk v r sl h
  | err => trivial
  | panic => exact h

theorem Holds.ite {c : Prop} [Decidable c] {a b : DRes α} (ha : a.Holds P) (hb : b.Holds P) :
    (if c then a else b).Holds P := by
  split <;> assumption

end DRes

theorem dec_opt (V f s bs sl) : dec V (f+1) (.opt s) bs sl =
    match bs with
    | 0 :: r => .ok (.opt none) r sl
    | 1 :: r => (dec V f s r sl).map fun v => .opt (some v)
    | _ => .err := by
  split
  · rw [dec]
  · rw [dec]
    cases dec V f s _ sl <;> rfl
  · rw [dec] <;> assumption

theorem dec_tup (V f ss bs sl) : dec V (f+1) (.tup ss) bs sl = (dec.decT V f ss bs sl).map .tup := by
  rw [dec]
  cases dec.decT V f ss bs sl <;> rfl

theorem dec_enum (V f ss bs sl) : dec V (f+1) (.enum ss) bs sl =
    if 4 ≤ bs.length then
      match ss[unle (bs.take 4)]? with
      | none => .err
      | some s => (dec V f s (bs.drop 4) sl).map (.var (unle (bs.take 4)))
    else .err := by
  rw [dec]
  dsimp only
  cases ss[unle (bs.take 4)]? with
  | none => rfl
  | some s =>
    dsimp only
    cases dec V f s (bs.drop 4) sl <;> rfl

theorem decT_cons (V f s ss bs sl) : dec.decT V (f+1) (s :: ss) bs sl =
    (dec V f s bs sl).bind fun v r sl' => (dec.decT V f ss r sl').map (v :: ·) := by
  rw [dec.decT]
  cases dec V f s bs sl
  · simp only [DRes.bind]
    cases dec.decT V f ss _ _ <;> rfl
  · rfl
  · rfl

theorem decN_eq_decT (V : Variant) (s : Schema) (f n : Nat) (bs : Bytes) (sl : Slots) :
    dec.decN V f s n bs sl = dec.decT V f (List.replicate n s) bs sl := by
  induction f generalizing n bs sl with
  | zero => rw [dec.decN, dec.decT]
  | succ f ih =>
    cases n with
    | zero => rw [dec.decN, List.replicate_zero, dec.decT]
    | succ n =>
      rw [dec.decN, List.replicate_succ, dec.decT]
      simp only [ih]

theorem dec_seq (V f s bs sl) : dec V (f+1) (.seq s) bs sl =
    if 8 ≤ bs.length then (dec.decT V f (List.replicate (unle (bs.take 8)) s) (bs.drop 8) sl).map .seq else .err := by
  rw [dec, decN_eq_decT]
  cases dec.decT V f _ (bs.drop 8) sl <;> rfl

theorem AllType.tup {vs : List Value} {s : Schema} (h : AllType vs s) : TupType vs (List.replicate vs.length s) := by
  induction vs with
  | nil => exact .nil
  | cons v vs ih => cases h with | cons hv hvs => exact .cons hv (ih hvs)

theorem unle_le (k n : Nat) (h : n < 256 ^ k) : unle (le k n) = n := by
  induction k generalizing n with
  | zero => rw [le, unle]; exact (Nat.lt_one_iff.mp h).symm
  | succ k ih =>
    rw [Nat.pow_succ, Nat.mul_comm] at h
    rw [le, unle, ih _ (Nat.div_lt_of_lt_mul h), Nat.mod_add_div]

theorem le_length (k n : Nat) : (le k n).length = k := by
  induction k generalizing n with
  | zero => rfl
  | succ k ih => rw [le, List.length_cons, ih]

/-- the length test, `take` and `drop` by which `dec` reads a `k`-byte number -/
theorem read_le {k n : Nat} (h : n < 256 ^ k) (r : Bytes) :
    k ≤ (le k n ++ r).length ∧ unle ((le k n ++ r).take k) = n ∧ (le k n ++ r).drop k = r := by
  have hl := le_length k n
  refine ⟨?_, ?_, List.drop_left' hl⟩
  · rw [List.length_append, hl]; omega
  · rw [List.take_left' hl, unle_le k n h]

theorem get_mid {α} (pre : List α) (x : α) (post : List α) : (pre ++ x :: post)[pre.length]? = some x := by
  simp

theorem set_mid {α} (pre : List α) (x y : α) (post : List α) :
    (pre ++ x :: post).set pre.length y = pre ++ y :: post := by
  simp

theorem takeChan_mid (V : Variant) {mk : Att → Value} (preC postC : List (Option Att)) (a : Att) (r : Bytes)
    {shmSlots : List (Option Nat)} :
    takeChan V mk preC.length r ⟨preC ++ some a :: postC, shmSlots⟩ = .ok (mk a) r ⟨preC ++ none :: postC, shmSlots⟩ := by
  simp only [takeChan, get_mid, set_mid]

theorem takeShm_mid (V : Variant) (preS postS : List (Option Nat)) (x : Nat) (r : Bytes) {chanSlots : List (Option Att)}
    (h : preS.length < USIZE_MAX) :
    takeShm V preS.length r ⟨chanSlots, preS ++ some x :: postS⟩ = .ok (.shm x) r ⟨chanSlots, preS ++ none :: postS⟩ := by
  simp only [takeShm, if_neg (Nat.ne_of_lt h), get_mid, set_mid]

theorem USIZE_MAX_lt : USIZE_MAX < 256 ^ 8 := by decide

/-- `v`'s own slots as a successful decode leaves them -/
def usedC (v : Value) : List (Option Att) := (chans v).map fun _ => none
def usedS (v : Value) : List (Option Nat) := (shms v).map fun _ => none
def usedCL (vs : List Value) : List (Option Att) := (chansList vs).map fun _ => none
def usedSL (vs : List Value) : List (Option Nat) := (shmsList vs).map fun _ => none

/-- `d` reads `x` back from `bs nC nS` (its encoding when the tables hold `nC` channels and `nS` regions), whatever follows,
against any slots that hold `x`'s attachments `cs`, `ss` from those positions on, and empties exactly those -/
def RoundTrip {α} (d : Bytes → Slots → DRes α) (x : α) (bs : Nat → Nat → Bytes) (cs : List Att) (ss : List Nat) : Prop :=
  ∀ (preC postC : List (Option Att)) (preS postS : List (Option Nat)) (r : Bytes),
    preC.length + cs.length < 256 ^ 8 → preS.length + ss.length < USIZE_MAX →
    d (bs preC.length preS.length ++ r) ⟨preC ++ (cs.map some ++ postC), preS ++ (ss.map some ++ postS)⟩
      = .ok x r ⟨preC ++ (cs.map (fun _ => none) ++ postC), preS ++ (ss.map (fun _ => none) ++ postS)⟩

/-- for either variant: they differ only on indices out of range or used twice -/
theorem dec_enc_all (V : Variant) (f : Nat) :
    (∀ v s, HasType v s → vsize v < f → RoundTrip (dec V f s) v (enc v) (chans v) (shms v)) ∧
    (∀ vs ss, TupType vs ss → vsizeL vs < f →
      RoundTrip (dec.decT V f ss) vs (encList vs) (chansList vs) (shmsList vs)) := by
  induction f with
  | zero => exact ⟨fun _ _ _ => nofun, fun _ _ _ => nofun⟩
  | succ f ih =>
    obtain ⟨ihv, iht⟩ := ih
    refine ⟨fun v s hty hf preC postC preS postS r hc hs => ?_, fun vs ss hty hf preC postC preS postS r hc hs => ?_⟩
    · cases hty <;> simp only [enc, chans, shms, List.append_assoc, List.cons_append] at hf hc hs ⊢
      case int w n hn => simp only [dec, read_le hn]; rfl
      case bool b => cases b <;> rfl
      case str bs hv hl =>
        have h4 : bs.length ≤ (bs ++ r).length := by rw [List.length_append]; exact Nat.le_add_right _ _
        simp only [dec, read_le hl, h4, List.take_left, List.drop_left, hv]; rfl
      case none => rw [dec_opt]; rfl
      case some hv => simp only [dec_opt, ihv _ _ hv (Nat.lt_of_succ_lt_succ hf) preC postC preS postS r hc hs]; rfl
      case seq vs _ hvs hl =>
        simp only [dec_seq, read_le hl, iht _ _ hvs.tup (Nat.lt_of_succ_lt_succ hf) preC postC preS postS r hc hs]; rfl
      case tup hvs => simp only [dec_tup, iht _ _ hvs (Nat.lt_of_succ_lt_succ hf) preC postC preS postS r hc hs]; rfl
      case var k v _ _ hk hk4 hv =>
        simp only [dec_enum, read_le hk4, hk, ihv _ _ hv (Nat.lt_of_succ_lt_succ hf) preC postC preS postS r hc hs]; rfl
      case sender a | receiver a =>
        simp only [dec, read_le (Nat.lt_of_le_of_lt (Nat.le_add_right _ _) hc)]
        exact takeChan_mid V preC postC a r
      case shm x =>
        have hl := Nat.lt_of_le_of_lt (Nat.le_add_right _ _) hs
        simp only [dec, read_le (Nat.lt_trans hl USIZE_MAX_lt)]
        exact takeShm_mid V preS postS x r hl
      case eshm => simp only [dec, read_le USIZE_MAX_lt]; rfl
    · cases hty with
      | nil => rfl
      | @cons v vs s ss hv hvs =>
        -- `v` is read with the attachments of `vs` still behind it, `vs` with `v`'s slots emptied in front
        simp only [vsizeL, chansList, shmsList, List.length_append, ← Nat.add_assoc] at hf hc hs
        have e1 := ihv v s hv (by omega) preC ((chansList vs).map some ++ postC) preS ((shmsList vs).map some ++ postS)
          (encList vs (preC.length + (chans v).length) (preS.length + (shms v).length) ++ r)
          (Nat.lt_of_le_of_lt (Nat.le_add_right _ _) hc) (Nat.lt_of_le_of_lt (Nat.le_add_right _ _) hs)
        have e2 := iht vs ss hvs (by omega) (preC ++ usedC v) postC (preS ++ usedS v) postS r
          (by rw [List.length_append, usedC, List.length_map]; exact hc) (by rw [List.length_append, usedS, List.length_map]; exact hs)
        simp only [usedC, usedS, List.length_append, List.length_map, List.append_assoc] at e2
        simp only [encList, chansList, shmsList, List.map_append, List.append_assoc, decT_cons, e1, DRes.bind, e2]; rfl

theorem dec_enc : ∀ (v : Value) (s : Schema), HasType v s →
    ∀ (preC postC : List (Option Att)) (preS postS : List (Option Nat)) (r : Bytes) (f : Nat), vsize v < f →
      preC.length + (chans v).length < 256 ^ 8 → preS.length + (shms v).length < USIZE_MAX →
      dec ⟨false⟩ f s (enc v preC.length preS.length ++ r)
          ⟨preC ++ ((chans v).map some ++ postC), preS ++ ((shms v).map some ++ postS)⟩
        = .ok v r ⟨preC ++ (usedC v ++ postC), preS ++ (usedS v ++ postS)⟩ :=
  fun v s h preC postC preS postS r f hf hc hs => (dec_enc_all _ f).1 v s h hf preC postC preS postS r hc hs

theorem decT_enc : ∀ (vs : List Value) (ss : List Schema), TupType vs ss →
    ∀ (preC postC : List (Option Att)) (preS postS : List (Option Nat)) (r : Bytes) (f : Nat), vsizeL vs < f →
      preC.length + (chansList vs).length < 256 ^ 8 → preS.length + (shmsList vs).length < USIZE_MAX →
      dec.decT ⟨false⟩ f ss (encList vs preC.length preS.length ++ r)
          ⟨preC ++ ((chansList vs).map some ++ postC), preS ++ ((shmsList vs).map some ++ postS)⟩
        = .ok vs r ⟨preC ++ (usedCL vs ++ postC), preS ++ (usedSL vs ++ postS)⟩ :=
  fun vs ss h preC postC preS postS r f hf hc hs => (dec_enc_all _ f).2 vs ss h hf preC postC preS postS r hc hs

theorem decN_enc : ∀ (vs : List Value) (s : Schema), AllType vs s →
    ∀ (preC postC : List (Option Att)) (preS postS : List (Option Nat)) (r : Bytes) (f : Nat), vsizeL vs < f →
      preC.length + (chansList vs).length < 256 ^ 8 → preS.length + (shmsList vs).length < USIZE_MAX →
      dec.decN ⟨false⟩ f s vs.length (encList vs preC.length preS.length ++ r)
          ⟨preC ++ ((chansList vs).map some ++ postC), preS ++ ((shmsList vs).map some ++ postS)⟩
        = .ok vs r ⟨preC ++ (usedCL vs ++ postC), preS ++ (usedSL vs ++ postS)⟩ :=
  fun vs _ h preC postC preS postS r f hf hc hs =>
    decN_eq_decT .. ▸ decT_enc vs _ h.tup preC postC preS postS r f hf hc hs

mutual
def hasBogus : Value → Bool
  | .opt (some v) => hasBogus v
  | .seq vs => hasBogusL vs
  | .tup vs => hasBogusL vs
  | .var _ v => hasBogus v
  | .bogus => true
  | _ => false
def hasBogusL : List Value → Bool
  | [] => false
  | v :: vs => hasBogus v || hasBogusL vs
end

/-- decoding `v` took exactly `v`'s endpoints and regions out of `sl`, leaving `sl'`, and made up no handle.
A list of values is judged as `.tup` of them (`chans (.tup vs)` is `chansList vs` by definition, and so on). -/
def Sound (sl : Slots) (v : Value) (sl' : Slots) : Prop :=
  (leftover sl).1.Perm (chans v ++ (leftover sl').1) ∧ (leftover sl).2.Perm (shms v ++ (leftover sl').2) ∧
  hasBogus v = false

theorem Sound.leaf {v : Value} {sl : Slots} (hc : chans v = []) (hs : shms v = []) (hb : hasBogus v = false) : Sound sl v sl := by
  simp [Sound, hc, hs, hb]

theorem Sound.cons {sl sl1 sl2 : Slots} {v : Value} {vs : List Value} (h1 : Sound sl v sl1) (h2 : Sound sl1 (.tup vs) sl2) :
    Sound sl (.tup (v :: vs)) sl2 := by
  simp only [Sound, chans, shms, hasBogus, chansList, shmsList, hasBogusL, List.append_assoc] at h2 ⊢
  exact ⟨h1.1.trans (h2.1.append_left _), h1.2.1.trans (h2.2.1.append_left _), by simp [h1.2.2, h2.2.2]⟩

theorem takeChan_holds {mk : Att → Value} (hmk : ∀ a, chans (mk a) = [a] ∧ shms (mk a) = [] ∧ hasBogus (mk a) = false)
    {w : Nat} {r : Bytes} {sl : Slots} : (takeChan ⟨false⟩ mk w r sl).Holds (Sound sl) := by
  unfold takeChan
  split
  · trivial
  · trivial
  · rename_i a ha
    refine ⟨?_, ?_, (hmk a).2.2⟩
    · rw [(hmk a).1]; exact filterMap_set_none ha
    · rw [(hmk a).2.1]; exact .refl _

theorem takeShm_holds {w : Nat} {r : Bytes} {sl : Slots} : (takeShm ⟨false⟩ w r sl).Holds (Sound sl) := by
  unfold takeShm
  split
  · exact Sound.leaf rfl rfl rfl
  · split
    · trivial
    · trivial
    · rename_i x hx
      exact ⟨.refl _, filterMap_set_none hx, rfl⟩

theorem dec_holds (f : Nat) :
    (∀ s bs sl, (dec ⟨false⟩ f s bs sl).Holds (Sound sl)) ∧
    (∀ ss bs sl, (dec.decT ⟨false⟩ f ss bs sl).Holds fun vs => Sound sl (.tup vs)) := by
  induction f with
  | zero => exact ⟨fun _ _ _ => trivial, fun _ _ _ => trivial⟩
  | succ f ih =>
    obtain ⟨ihv, iht⟩ := ih
    refine ⟨fun s bs sl => ?_, fun ss bs sl => ?_⟩
    · cases s with
      | int w =>
        rw [dec]
        exact .ite (Sound.leaf rfl rfl rfl) trivial
      | bool =>
        cases bs with
        | nil =>
          rw [dec]
          trivial
        | cons b r =>
          rw [dec]
          exact .ite (Sound.leaf rfl rfl rfl) (.ite (Sound.leaf rfl rfl rfl) trivial)
      | str =>
        rw [dec]
        exact .ite (.ite (.ite (Sound.leaf rfl rfl rfl) trivial) trivial) trivial
      | opt s =>
        rw [dec_opt]
        split
        · exact Sound.leaf rfl rfl rfl
        -- `Sound` of a wrapped value is `Sound` of its content by definition
        · exact (ihv s _ sl).map fun v sl' h => h
        · trivial
      | seq s =>
        rw [dec_seq]
        exact .ite ((iht _ _ sl).map fun vs sl' h => h) trivial
      | tup ss =>
        rw [dec_tup]
        exact (iht ss bs sl).map fun vs sl' h => h
      | enum ss =>
        rw [dec_enum]
        refine .ite ?_ trivial
        split
        · trivial
        · exact (ihv _ _ sl).map fun v sl' h => h
      | sender | receiver =>
        rw [dec]
        exact .ite (takeChan_holds fun a => ⟨rfl, rfl, rfl⟩) trivial
      | shm =>
        rw [dec]
        exact .ite takeShm_holds trivial
    · cases ss with
      | nil =>
        rw [dec.decT]
        exact Sound.leaf rfl rfl rfl
      | cons s ss =>
        rw [decT_cons]
        exact (ihv s bs sl).bind fun v r sl1 h1 => (iht ss r sl1).map fun vs sl2 h2 => h1.cons h2

theorem dec_ne_panic_all (f : Nat) :
    (∀ s bs sl, dec ⟨false⟩ f s bs sl ≠ .panic) ∧
    (∀ s n bs sl, dec.decN ⟨false⟩ f s n bs sl ≠ .panic) ∧
    (∀ ss bs sl, dec.decT ⟨false⟩ f ss bs sl ≠ .panic) :=
  ⟨fun s bs sl => ((dec_holds f).1 s bs sl).ne_panic,
   fun _ _ bs sl => decN_eq_decT .. ▸ ((dec_holds f).2 _ bs sl).ne_panic,
   fun ss bs sl => ((dec_holds f).2 ss bs sl).ne_panic⟩

theorem dec_sound_all (f : Nat) :
    (∀ s bs sl v r sl', dec ⟨false⟩ f s bs sl = .ok v r sl' → Sound sl v sl') ∧
    (∀ s n bs sl vs r sl', dec.decN ⟨false⟩ f s n bs sl = .ok vs r sl' → Sound sl (.tup vs) sl') ∧
    (∀ ss bs sl vs r sl', dec.decT ⟨false⟩ f ss bs sl = .ok vs r sl' → Sound sl (.tup vs) sl') :=
  ⟨fun s bs sl _ _ _ => ((dec_holds f).1 s bs sl).of_ok,
   fun _ _ bs sl _ _ _ h => ((dec_holds f).2 _ bs sl).of_ok (decN_eq_decT .. ▸ h),
   fun ss bs sl _ _ _ => ((dec_holds f).2 ss bs sl).of_ok⟩

end Wire
