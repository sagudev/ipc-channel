import IpcModel.Reach
import IpcModel.Lemmas.ListLookup
/-! `Reach.reachG` computes exactly the inductively reachable nodes: the iterates from nothing form a chain of sublists
of length at most `n`, so the chain is stationary after at most `n` rounds. -/
namespace Reach

variable {n : Nat} {root : Nat → Bool} {edge : Nat → Nat → Bool}

theorem mem_stepG {r : List Nat} {c : Nat} :
    c ∈ stepG n root edge r ↔ c < n ∧ (root c = true ∨ ∃ d, d ∈ r ∧ edge d c = true) := by
  simp [stepG]

theorem stepG_length_le (r : List Nat) : (stepG n root edge r).length ≤ n := by
  have := List.length_filter_le (fun c => root c || r.any fun d => edge d c) (List.range n)
  simpa [stepG] using this

theorem stepG_mono {r s : List Nat} (h : ∀ x, x ∈ r → x ∈ s) : (stepG n root edge r).Sublist (stepG n root edge s) :=
  ListLookup.filter_sublist_filter _ fun x hx => by
    simp only [Bool.or_eq_true, List.any_eq_true] at hx ⊢
    exact hx.imp_right fun ⟨d, hd, he⟩ => ⟨d, h d hd, he⟩

def it (n : Nat) (root : Nat → Bool) (edge : Nat → Nat → Bool) : Nat → List Nat
  | 0 => []
  | k+1 => stepG n root edge (it n root edge k)

theorem iterG_it (k j : Nat) : iterG n root edge k (it n root edge j) = it n root edge (j + k) := by
  induction k generalizing j with
  | zero => rfl
  | succ k ih => exact (ih (j + 1)).trans (by rw [Nat.add_right_comm]; rfl)

theorem reachG_eq_it : reachG n root edge = it n root edge (n + 1) :=
  (iterG_it (n + 1) 0).trans (by rw [Nat.zero_add])

variable (n root edge) in
theorem it_sublist (k : Nat) : (it n root edge k).Sublist (it n root edge (k + 1)) := by
  induction k with
  | zero => exact List.nil_sublist _
  | succ k ih => exact stepG_mono fun x hx => ih.subset hx

variable (n root edge) in
/-- a round that still changes something comes after `k` rounds that did, each adding an element -/
theorem it_strict (k : Nat) : it n root edge k ≠ it n root edge (k + 1) → k < (it n root edge (k + 1)).length := by
  induction k with
  | zero => exact fun h => List.length_pos_iff.mpr (Ne.symm h)
  | succ k ih =>
    intro h
    have hs := it_sublist n root edge (k + 1)
    have := hs.length_le
    have : (it n root edge (k + 1)).length ≠ (it n root edge (k + 1 + 1)).length := fun hl => h (hs.eq_of_length hl)
    have := ih fun e => h (congrArg (stepG n root edge) e)
    omega

theorem reachG_fixed : stepG n root edge (reachG n root edge) = reachG n root edge := by
  rw [reachG_eq_it]
  refine Decidable.by_contra fun h => ?_
  -- round `n + 2` would be the `n + 2`-nd strict one, but there are only `n` nodes
  have := it_strict n root edge (n + 1) (Ne.symm h)
  have : (it n root edge (n + 1 + 1)).length ≤ n := stepG_length_le _
  omega

theorem it_sound (k : Nat) : ∀ c, c ∈ it n root edge k → ReachG n root edge c := by
  induction k with
  | zero => intro c hc; cases hc
  | succ k ih =>
    intro c hc
    rcases mem_stepG.mp hc with ⟨hl, hr | ⟨d, hd, he⟩⟩
    · exact .root c hl hr
    · exact .edge d c hl (ih d hd) he

theorem reachG_iff (c : Nat) : c ∈ reachG n root edge ↔ ReachG n root edge c := by
  constructor
  · intro h; rw [reachG_eq_it] at h; exact it_sound _ c h
  · intro h
    induction h with
    | root c hl hr => rw [← reachG_fixed]; exact mem_stepG.mpr ⟨hl, Or.inl hr⟩
    | edge d c hl _ he ih => rw [← reachG_fixed]; exact mem_stepG.mpr ⟨hl, Or.inr ⟨d, ih, he⟩⟩

theorem reachG_lt {c : Nat} (h : ReachG n root edge c) : c < n := by cases h <;> assumption

end Reach
