import IpcModel.Lemmas.ShmProof
/-! Several regions in one message: `k` descriptors put in flight by one `sendmsg`, then received one after the other
(`from_fd` per non-socket descriptor, in descriptor order).  The new handles appear in the order of the regions in the
message, each stemming from its own.  The statements speak of `W.srcs`; `contents` turns that into what the handle reads. -/
namespace Shm

def flightOf (p : Nat × List Nat) : Op := .flight p.1

def cloneOf (p : Nat × List Nat) : Op := .clone p.1

theorem run_append (a b : List Op) : run (a ++ b) = b.foldl step (run a) := List.foldl_append

/-- what each handle stems from (`none` once dropped) -/
def W.srcs (w : W) : List (Option (List Nat)) := w.hs.map (Option.map Prod.snd)

theorem srcs_get {w : W} {i : Nat} {s : List Nat} (h : w.srcs[i]? = some (some s)) : ∃ h, w.hs[i]? = some (some (h, s)) := by
  simp only [W.srcs, List.getElem?_map, Option.map_eq_some_iff] at h
  obtain ⟨_, h1, ⟨h, _⟩, rfl, rfl⟩ := h
  exact ⟨h, h1⟩

theorem srcs_append_get {w : W} {pre : List (Option (List Nat))} {l : List (List Nat)} (hs : w.srcs = pre ++ l.map some)
    {b k : Nat} {s : List Nat} (hb : pre.length = b) (hk : l[k]? = some s) : ∃ h, w.hs[b + k]? = some (some (h, s)) :=
  srcs_get <| by
    rw [hs, ← hb, List.getElem?_append_right (Nat.le_add_right ..), Nat.add_sub_cancel_left, List.getElem?_map, hk]; rfl

theorem recvs_spec (fl : List (Nat × List Nat)) (w : W) (hfl : w.flight = fl) :
    ((List.replicate fl.length Op.recvFlight).foldl step w).srcs = w.srcs ++ (fl.map Prod.snd).map some ∧
    ((List.replicate fl.length Op.recvFlight).foldl step w).flight = [] := by
  induction fl generalizing w with
  | nil => exact ⟨by simp, hfl⟩
  | cons x rest ih =>
    have hstep : step w .recvFlight = ⟨(recvObj w.k x.1).1, w.hs ++ [some ((recvObj w.k x.1).2, x.2)], rest⟩ := by
      simp only [step, hfl]
    obtain ⟨hs, hf⟩ := ih (step w .recvFlight) (by rw [hstep])
    refine ⟨?_, ?_⟩ <;> rw [List.length_cons, List.replicate_succ, List.foldl_cons]
    · rw [hs, hstep]; simp [W.srcs]
    · exact hf

theorem drops_spec (ds : List Nat) (w : W) :
    ((ds.map Op.drop).foldl step w).flight = w.flight ∧ ((ds.map Op.drop).foldl step w).hs.length = w.hs.length :=
  List.foldlRecOn (ds.map Op.drop) step (motive := fun w' => w'.flight = w.flight ∧ w'.hs.length = w.hs.length) ⟨rfl, rfl⟩
    fun w' h op ho => by
    obtain ⟨d, _, rfl⟩ := List.mem_map.mp ho
    simp only [step]; split
    · exact ⟨h.1, List.length_set.trans h.2⟩
    · exact h

theorem persist {w : W} {j : Nat} {x : Handle × List Nat} (ops : List Op) (hl : w.hs[j]? = some (some x))
    (hops : ∀ op ∈ ops, op ≠ .drop j) : (ops.foldl step w).hs[j]? = some (some x) :=
  List.foldlRecOn ops step hl fun w hl op ho => (step_spec w op).keeps hl (hops op ho)

theorem contents {w : W} (hi : Inv w) {i : Nat} {h : Handle} {src : List Nat} (hl : w.hs[i]? = some (some (h, src))) :
    deref w.k h = .bytes src ∧ h.length = src.length :=
  ⟨deref_ok (hi.hok hl), (hi.hok hl).length_eq⟩

theorem arrived {w : W} (hi : Inv w) {pre : List (Option (List Nat))} {ps : List (Nat × List Nat)} {b : Nat}
    (hb : pre.length = b) (hs : w.srcs = pre ++ (ps.map Prod.snd).map some) :
    w.hs.length = b + ps.length ∧
    ∀ k p, ps[k]? = some p → ∃ h', w.hs[b + k]? = some (some (h', p.2)) ∧ deref w.k h' = .bytes p.2 ∧ h'.length = p.2.length :=
  ⟨by simpa [W.srcs, hb] using congrArg List.length hs, fun k p hk =>
    have ⟨h, hl⟩ := srcs_append_get hs hb (by rw [List.getElem?_map, hk]; rfl)
    ⟨h, hl, contents hi hl⟩⟩

/-- `sendmsg` of the live handles `xs` (`idx`: where each stands, `src`: what it stems from).  `xs` is a list of anything:
`send_literal` names the clones by their place in the message (`ps.zipIdx`). -/
theorem flights_spec {α} (idx : α → Nat) (src : α → List Nat) (xs : List α) (w : W) (hi : Inv w)
    (hlive : ∀ x ∈ xs, ∃ h, w.hs[idx x]? = some (some (h, src x))) :
    ∃ fl : List (Nat × List Nat), fl.map Prod.snd = xs.map src ∧
      (xs.map fun x => Op.flight (idx x)).foldl step w = { w with flight := w.flight ++ fl } := by
  induction xs generalizing w with
  | nil => exact ⟨[], rfl, by simp⟩
  | cons x xs ih =>
    obtain ⟨h, hh⟩ := hlive x List.mem_cons_self
    obtain ⟨_, _, o, ho, hobj, _⟩ := hi.hok hh
    have hstep : step w (.flight (idx x)) = { w with flight := w.flight ++ [(o, src x)] } := by simp only [step, hh, ho]
    obtain ⟨fl, hfl, hrun⟩ := ih (step w (.flight (idx x))) (hstep ▸ inv_flight hi hobj) fun q hq => by
      rw [hstep]; exact hlive q (List.mem_cons_of_mem _ hq)
    exact ⟨(o, src x) :: fl, by simp [hfl], by rw [List.map_cons, List.foldl_cons, hrun, hstep]; simp⟩

theorem clones_spec (ps : List (Nat × List Nat)) (w : W) (hi : Inv w)
    (hlive : ∀ p ∈ ps, ∃ h, w.hs[p.1]? = some (some (h, p.2))) :
    Inv ((ps.map cloneOf).foldl step w) ∧
    ((ps.map cloneOf).foldl step w).srcs = w.srcs ++ (ps.map Prod.snd).map some ∧
    ((ps.map cloneOf).foldl step w).flight = w.flight := by
  induction ps generalizing w with
  | nil => exact ⟨hi, by simp, rfl⟩
  | cons p ps ih =>
    obtain ⟨h, hh⟩ := hlive p List.mem_cons_self
    obtain ⟨k', h', hc, hn⟩ := clone_spec hi.fresh (hi.hok hh)
    have hstep : step w (cloneOf p) = ⟨k', w.hs ++ [some (h', p.2)], w.flight⟩ := by simp only [cloneOf, step, hh, hc]
    obtain ⟨hi', hs, hfl⟩ := ih (step w (cloneOf p)) (hstep ▸ inv_push hi hn fun _ => id) fun q hq =>
      (hlive q (List.mem_cons_of_mem _ hq)).imp fun _ hqq => (step_spec w _).keeps hqq (show Op.clone p.1 ≠ _ from nofun)
    refine ⟨hi', ?_, ?_⟩ <;> rw [List.map_cons, List.foldl_cons]
    · rw [hs, hstep]; simp [W.srcs]
    · rw [hfl, hstep]

/-- one message with the live regions `xs`: `sendmsg`, any drops `ds`, as many receipts.  The drops may include the regions
sent: the model never frees a memory object (`K.objs` does not shrink), which stands for the in-flight descriptors keeping it. -/
theorem message {α} (idx : α → Nat) (src : α → List Nat) (xs : List α) (w : W) (hi : Inv w) (ds : List Nat) (hnf : w.flight = [])
    (hlive : ∀ x ∈ xs, ∃ h, w.hs[idx x]? = some (some (h, src x))) :
    let w' := (List.replicate xs.length Op.recvFlight).foldl step
      ((ds.map Op.drop).foldl step ((xs.map fun x => Op.flight (idx x)).foldl step w))
    ∃ pre, pre.length = w.hs.length ∧ w'.srcs = pre ++ (xs.map src).map some ∧ w'.flight = [] := by
  intro w'
  obtain ⟨fl, hfl, hsent⟩ := flights_spec idx src xs w hi hlive
  obtain ⟨hflight, hlen⟩ := drops_spec ds ((xs.map fun x => Op.flight (idx x)).foldl step w)
  rw [hsent, hnf] at hflight hlen
  simp only [w', hsent, hnf]
  have hrecv := recvs_spec fl _ hflight
  rw [hfl, show fl.length = xs.length by simpa using congrArg List.length hfl] at hrecv
  exact ⟨_, (List.length_map ..).trans hlen, hrecv⟩

/-- `message` for clones made on the spot.  In the library's own history for one message `ds` is the clones, which die when
`send` returns: `C05.C05_send_literal`. -/
theorem send_literal (w : W) (hi : Inv w) (ps : List (Nat × List Nat)) (ds : List Nat) (hnf : w.flight = [])
    (hlive : ∀ p ∈ ps, ∃ h, w.hs[p.1]? = some (some (h, p.2))) :
    let cl := (List.range ps.length).map (w.hs.length + ·)
    let w' := (List.replicate ps.length Op.recvFlight).foldl step ((ds.map Op.drop).foldl step
      ((cl.map Op.flight).foldl step ((ps.map cloneOf).foldl step w)))
    ∃ pre, pre.length = w.hs.length + ps.length ∧ w'.srcs = pre ++ (ps.map Prod.snd).map some ∧ w'.flight = [] := by
  intro cl
  obtain ⟨hi1, hs1, hfl1⟩ := clones_spec ps w hi hlive
  -- the `k`-th clone is live and stands at position `w.hs.length + k`
  obtain ⟨pre, hpre, hs, hfl⟩ := message (w.hs.length + ·.2) (·.1.2) ps.zipIdx _ hi1 ds (hfl1.trans hnf) fun x hx =>
    srcs_append_get hs1 (List.length_map ..) (by rw [List.getElem?_map, List.mem_zipIdx_iff_getElem?.mp hx]; rfl)
  have hcl : (ps.zipIdx.map fun x => Op.flight (w.hs.length + x.2)) = cl.map Op.flight := by
    simp only [cl, List.range_eq_range', ← List.zipIdx_map_snd 0 ps, List.map_map]; rfl
  have hsrc : ps.zipIdx.map (·.1.2) = ps.map Prod.snd :=
    (List.map_map (g := Prod.snd) (f := Prod.fst)).symm.trans (congrArg _ (List.zipIdx_map_fst 0 ps))
  rw [hcl, List.length_zipIdx, hsrc] at hs
  rw [hcl, List.length_zipIdx] at hfl
  exact ⟨pre, hpre.trans (by simpa [W.srcs] using congrArg List.length hs1), hs, hfl⟩

end Shm
