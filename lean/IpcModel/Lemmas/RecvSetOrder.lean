import IpcModel.RecvSetP
/-! Per-member exactly-once / in-order / closed-last for the receiver-set model, over all interleavings. -/
namespace RSetP

def toksOf : Pc → List Nat | .idle => [] | .batch t _ => t
def outOf : Pc → List Ev | .idle => [] | .batch _ o => o
/-- everything `select` has reported or is about to return -/
def allRep (st : St) : List Ev := st.reported ++ outOf st.pc

/-- events of the member with id `i`: `some t` a message, `none` the closure -/
def evsOf (i : Nat) (l : List Ev) : List (Option Nat) :=
  l.filterMap fun
    | .msg j t => if j = i then some (some t) else none
    | .closed j => if j = i then some none else none

theorem evsOf_append (i : Nat) (a b : List Ev) : evsOf i (a ++ b) = evsOf i a ++ evsOf i b := by simp [evsOf]

def reg (st : St) (k : Nat) : Prop := ∃ m, st.members[k]? = some m ∧ m.registered = true

structure Inv2 (st : St) : Prop where
  readyNodup : st.ready.Nodup
  toksNodup : (toksOf st.pc).Nodup
  readyReg : ∀ k ∈ st.ready, reg st k
  toksReg : ∀ k ∈ toksOf st.pc, reg st k
  closedDone : ∀ (k : Nat) (m : Member), st.members[k]? = some m → m.closedReported = true → m.registered = false ∧ m.q = [] ∧ m.senders = 0

theorem nodup_wake {st : St} (k : Nat) (h : st.ready.Nodup) : (wake st k).ready.Nodup := by
  unfold wake
  split
  · split
    · next hc =>
      simp only [Bool.and_eq_true, Bool.not_eq_true', List.contains_eq_mem, decide_eq_false_iff_not] at hc
      exact ListLookup.nodup_concat.2 ⟨h, hc.2⟩
    · exact h
  · exact h

theorem reg_wake (st : St) (k j : Nat) : reg (wake st k) j ↔ reg st j := by
  unfold reg; rw [wake_members]

theorem reg_setM {st : St} {k j : Nat} {m m' : Member} (hm : st.members[k]? = some m)
    (hr : j = k → m.registered = true → m'.registered = true) (h : reg st j) : reg (setM st k m') j := by
  by_cases hjk : j = k
  · subst hjk
    obtain ⟨_, h0, hr0⟩ := h
    cases hm.symm.trans h0
    exact ⟨m', setM_self hm _, hr rfl hr0⟩
  · unfold reg; rwa [setM_ne st m' hjk]

theorem inv2_setM {st : St} {k : Nat} {m m' : Member} (hI : Inv2 st) (hm : st.members[k]? = some m)
    (hr : k ∈ st.ready ∨ k ∈ toksOf st.pc → m.registered = true → m'.registered = true)
    (hc : m'.closedReported = true → m'.registered = false ∧ m'.q = [] ∧ m'.senders = 0) : Inv2 (setM st k m') where
  readyNodup := hI.readyNodup
  toksNodup := hI.toksNodup
  readyReg j hj := reg_setM hm (fun e => hr (.inl (e ▸ hj))) (hI.readyReg j hj)
  toksReg j hj := reg_setM hm (fun e => hr (.inr (e ▸ hj))) (hI.toksReg j hj)
  closedDone j mj hj hcl := by
    rcases setM_cases hj with ⟨-, rfl⟩ | ⟨-, hj⟩
    · exact hc hcl
    · exact hI.closedDone j mj hj hcl

theorem inv2_wake {st : St} (k : Nat) (hI : Inv2 st) : Inv2 (wake st k) where
  readyNodup := nodup_wake k hI.readyNodup
  toksNodup := by rw [wake_pc]; exact hI.toksNodup
  readyReg j hj := by
    rw [reg_wake]
    rcases mem_wake_ready.1 hj with hj | ⟨rfl, hrg⟩
    · exact hI.readyReg j hj
    · exact hrg
  toksReg j hj := (reg_wake st k j).2 (hI.toksReg j (by rwa [wake_pc] at hj))
  closedDone j mj hj := hI.closedDone j mj (by rwa [wake_members] at hj)

theorem Inv2.sub {st st' : St} (hI : Inv2 st) (hm : st'.members = st.members) (hr : st'.ready.Sublist st.ready)
    (ht : (toksOf st'.pc).Sublist (toksOf st.pc)) : Inv2 st' :=
  have hreg : ∀ j, reg st j → reg st' j := fun _ ⟨m, h, hr⟩ => ⟨m, hm ▸ h, hr⟩
  { readyNodup := hI.readyNodup.sublist hr
    toksNodup := hI.toksNodup.sublist ht
    readyReg := fun j hj => hreg j (hI.readyReg j (hr.subset hj))
    toksReg := fun j hj => hreg j (hI.toksReg j (ht.subset hj))
    closedDone := hm ▸ hI.closedDone }

theorem inv2_step (st st' : St) (a : Act) (hI : Inv2 st) (h : step st a = some st') : Inv2 st' := by
  cases Step.of_step h with
  | upd k m' hm hu hst =>
    have hb : Inv2 (setM st k m') := inv2_setM hI hm (fun _ => hu.reg) fun hcl =>
      absurd (hI.closedDone k _ hm (hu.closed ▸ hcl)).2.2 (hu.live (hu.closed ▸ hcl))
    rcases hst with rfl | ⟨rfl, -⟩
    · exact inv2_wake k hb
    · exact hb
  | poll =>
    exact { readyNodup := hI.readyNodup.sublist (List.drop_sublist _ _)
            toksNodup := hI.readyNodup.sublist (List.take_sublist _ _)
            readyReg := fun j hj => hI.readyReg j (List.mem_of_mem_drop hj)
            toksReg := fun j hj => hI.readyReg j (List.mem_of_mem_take hj)
            closedDone := hI.closedDone }
  | done => exact hI.sub rfl (.refl _) (.refl _)
  | msg k m tag q' hm hq =>
    refine inv2_setM (hI.sub rfl (.refl _) (.refl _)) hm (fun _ => id) fun hcl => ?_
    cases hq.symm.trans (hI.closedDone k m hm hcl).2.1
  | closed k m hm hq hs =>
    -- `k` has left the ready list and the batch (`Inv2.sub`) before it is deregistered
    refine inv2_setM (hI.sub rfl List.filter_sublist (List.sublist_cons_self _ _)) hm (fun hin _ => ?_) fun _ => ⟨rfl, hq, hs⟩
    -- so it is in neither, and need not stay registered
    rcases hin with hin | hin
    · simp at hin
    · exact absurd hin (List.nodup_cons.1 hI.toksNodup).1
  | block => exact hI.sub rfl (.refl _) (List.sublist_cons_self _ _)

/-- the events of `i` are those of `k` alone (the real set hands ids out from a counter) -/
def OthersDiffer (st : St) (k i : Nat) : Prop := ∀ (j : Nat) (mj : Member), st.members[j]? = some mj → j ≠ k → mj.id ≠ i

/-- The account of member `k`, the only one with id `i`, stands at `l`: reported for `i` are messages `del`, then the closure
iff the member's flag is set, and `del` followed by the queue is `l`. -/
def Acct (st : St) (k i : Nat) (l : List Nat) : Prop :=
  OthersDiffer st k i ∧ ∃ del m, st.members[k]? = some m ∧ m.id = i ∧
    evsOf i (allRep st) = del.map some ++ (if m.closedReported then [none] else []) ∧ del ++ m.q = l

theorem allRep_setM (st : St) (k : Nat) (m : Member) : allRep (setM st k m) = allRep st := rfl

theorem acct_wake {st : St} {k' k i : Nat} {l : List Nat} : Acct (wake st k') k i l ↔ Acct st k i l := by
  simp only [Acct, OthersDiffer, allRep, wake_members, wake_pc, wake_reported]

theorem od_setM {st : St} {k i k' : Nat} {m m' : Member} (h : OthersDiffer st k i) (hm : st.members[k']? = some m)
    (hid : m'.id = m.id) : OthersDiffer (setM st k' m') k i := by
  intro j mj hj hjk
  rcases setM_cases hj with ⟨rfl, rfl⟩ | ⟨-, hj⟩
  · rw [hid]; exact h j m hm hjk
  · exact h j mj hj hjk

theorem Inv2.head_open {c : Nat} {ms : List Member} {r rest : List Nat} {k : Nat} {out rep : List Ev} {m : Member}
    (hI : Inv2 ⟨c, ms, r, .batch (k :: rest) out, rep⟩) (hm : ms[k]? = some m) : m.closedReported = false :=
  Bool.eq_false_iff.2 fun hcl => by
    obtain ⟨m0, h0, hr0⟩ := hI.toksReg k List.mem_cons_self
    cases hm.symm.trans h0
    cases hr0.symm.trans (hI.closedDone k m hm hcl).1

theorem acct_step (st st' : St) (a : Act) (k i : Nat) (l : List Nat)
    (hI : Inv2 st) (ha : Acct st k i l) (h : step st a = some st') : Acct st' k i (l ++ sentBy k a) := by
  obtain ⟨hod, del, m, hk, hid, hev, rfl⟩ := ha
  -- a step that leaves member `k` and the events of `i` alone; `[]` is what it sends to `k`
  have frame : ∀ {s : St}, s.members[k]? = some m → OthersDiffer s k i → evsOf i (allRep s) = evsOf i (allRep st) →
      Acct s k i (del ++ m.q ++ []) := fun h1 h2 h3 => ⟨h2, del, m, h1, hid, h3 ▸ hev, (List.append_nil _).symm⟩
  cases Step.of_step h with
  | upd k' m1' hm hu hst =>
    suffices Acct (setM st k' m1') k i (del ++ m.q ++ sentBy k a) by
      rcases hst with rfl | ⟨rfl, -⟩
      · exact acct_wake.2 this
      · exact this
    have hod' := od_setM hod hm hu.id
    by_cases hkk : k = k'
    · subst hkk; cases hk.symm.trans hm
      exact ⟨hod', del, m1', setM_self hm _, hu.id.trans hid, by rw [hu.closed]; exact hev,
        by rw [hu.q, List.append_assoc]⟩
    · rw [hu.others k hkk]
      exact frame ((setM_ne st _ hkk).trans hk) hod' rfl
  | poll => exact frame hk hod rfl
  | done => exact frame hk hod (by simp [allRep, outOf])
  | block => exact frame hk hod rfl
  | msg k' m1 tag q' hm hq =>
    by_cases hkk : k = k'
    · subst hkk; cases hk.symm.trans hm
      refine ⟨od_setM hod hm rfl, del ++ [tag], _, setM_self hm _, hid, ?_, by simp [hq, sentBy]⟩
      simp only [↓allRep_setM, allRep, outOf] at hev ⊢
      rw [← List.append_assoc, evsOf_append, hev, hI.head_open hm]
      simp [evsOf, hid]
    · exact frame ((setM_ne _ _ hkk).trans hk) (od_setM hod hm rfl)
        (by simp [↓allRep_setM, allRep, outOf, evsOf, hod k' m1 hm (Ne.symm hkk)])
  | closed k' m1 hm hq hs =>
    by_cases hkk : k = k'
    · subst hkk; cases hk.symm.trans hm
      refine ⟨od_setM hod hm rfl, del, _, setM_self hm _, hid, ?_, by simp [sentBy]⟩
      simp only [↓allRep_setM, allRep, outOf] at hev ⊢
      rw [← List.append_assoc, evsOf_append, hev, hI.head_open hm]
      simp [evsOf, hid]
    · exact frame ((setM_ne _ _ hkk).trans hk) (od_setM hod hm rfl)
        (by simp [↓allRep_setM, allRep, outOf, evsOf, hod k' m1 hm (Ne.symm hkk)])

def sentTo (k : Nat) (as : List Act) : List Nat := as.flatMap (sentBy k)

theorem inv2_run (st st' : St) (as : List Act) (hI : Inv2 st) (h : run st as = some st') : Inv2 st' :=
  run_induction inv2_step hI h

/-- **exactly once, in order, closed last** (`C06_once_ordered`) -/
theorem acct_run (as : List Act) (st st' : St) (k i : Nat) (l : List Nat)
    (hI : Inv2 st) (ha : Acct st k i l) (h : run st as = some st') : Acct st' k i (l ++ sentTo k as) := by
  induction as generalizing st l with
  | nil => cases h; simpa [sentTo] using ha
  | cons a as ih =>
    obtain ⟨st1, h1, h2⟩ := run_cons_eq_some.1 h
    simpa [sentTo] using ih st1 _ (inv2_step st st1 a hI h1) (acct_step st st1 a k i l hI ha h1) h2

end RSetP
