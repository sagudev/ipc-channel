import IpcModel.Gen
/-! Interface lemmas over the *generated* definitions (re-proved on every run for whatever the translator produced). -/
namespace Arith
open Gen

/-- `& !7` on a `usize`: shifted right by 3 the mask is all ones, and the low 3 bits of the result are clear -/
theorem mask8 (x : Nat) (h : x < 2^64) : x &&& (2^64 - 8) = x / 8 * 8 := by
  have hd : (x &&& (2^64 - 8)) / 2^3 = x / 8 := by
    rw [Nat.and_div_two_pow]
    exact Nat.and_two_pow_sub_one_of_lt_two_pow (n := 61) (Nat.div_lt_of_lt_mul h)
  have hm : (x &&& (2^64 - 8)) % 2^3 = 0 := by
    rw [Nat.and_mod_two_pow]
    exact Nat.and_zero _
  rw [← hd]
  exact (Nat.div_mul_cancel (Nat.dvd_of_mod_eq_zero hm)).symm

theorem fs_eq (sb : Nat) : fragmentSize sb = sb - 32 := by
  unfold fragmentSize reservedSize
  rfl

theorem ffs_eq (sb : Nat) (h : sb < 2^64) : firstFragmentSize sb = (sb - 32 - 8) / 8 * 8 := by
  unfold firstFragmentSize
  rw [fs_eq]
  exact mask8 _ (by omega)

/-- no `usize` underflow on any buffer size the code can see -/
theorem fs_safe (sb : Nat) (h : 1000 ≤ sb) : fragmentSize_safe sb ∧ firstFragmentSize_safe sb := by
  unfold fragmentSize_safe firstFragmentSize_safe
  rw [fs_eq]
  unfold reservedSize
  omega

/-- needs no `usize` bound: the interleaving model is defined on these closed forms -/
theorem closed_lt (sb : Nat) (h : 1000 ≤ sb) :
    0 < (sb - 32 - 8) / 8 * 8 ∧ (sb - 32 - 8) / 8 * 8 + 8 ≤ sb - 32 ∧ sb - 32 < sb := by
  omega

theorem ffs_lt (sb : Nat) (h : 1000 ≤ sb) (h64 : sb < 2^64) :
    0 < firstFragmentSize sb ∧ firstFragmentSize sb + 8 ≤ fragmentSize sb ∧ fragmentSize sb < sb := by
  rw [ffs_eq sb h64, fs_eq]
  exact closed_lt sb h

theorem ffs_lt_self (sb : Nat) (h : 1000 ≤ sb) (h64 : sb < 2^64) : firstFragmentSize sb < sb := by
  have := ffs_lt sb h h64
  omega

theorem ffs_mono (a b : Nat) (h : a ≤ b) (hb : b < 2^64) : firstFragmentSize a ≤ firstFragmentSize b := by
  rw [ffs_eq a (Nat.lt_of_le_of_lt h hb), ffs_eq b hb]
  -- step by step (`− 32`, `− 8`, `/ 8`, `* 8`): `omega` on the closed forms is many times dearer to check
  exact Nat.mul_le_mul_right _ (Nat.div_le_div_right (Nat.sub_le_sub_right (Nat.sub_le_sub_right h _) _))

theorem fs_mono (a b : Nat) (h : a ≤ b) : fragmentSize a ≤ fragmentSize b := Nat.sub_le_sub_right h _

theorem endFollow_spec (len pos sb : Nat) (h : pos < len) (hf : 0 < fragmentSize sb) :
    pos < endFollow len pos sb ∧ endFollow len pos sb ≤ len ∧ endFollow len pos sb - pos ≤ fragmentSize sb :=
  -- `endFollow len pos sb` is `min (pos + fragmentSize sb) len`
  ⟨Nat.lt_min.2 ⟨Nat.lt_add_of_pos_right hf, h⟩, Nat.min_le_right .., Nat.sub_le_iff_le_add'.2 (Nat.min_le_left ..)⟩

theorem downsize_spec (sb n sb' : Nat) (h : downsize sb n = some sb') :
    2000 < n ∧ sb' < n ∧ sb' ≤ sb / 2 ∧ (n ≤ sb → 1000 ≤ sb') := by
  unfold downsize at h
  by_cases hn : n > 2000
  · rw [if_pos hn] at h
    cases h
    refine ⟨hn, ?_⟩
    split <;> omega
  · rw [if_neg hn] at h
    cases h

theorem downsize_next (sb n sb' : Nat) (h : 1000 ≤ sb) (h64 : sb < 2^64) (hn : n ≤ sb) (hd : downsize sb n = some sb') :
    sb' < sb ∧ 1000 ≤ sb' ∧ firstFragmentSize sb' < n := by
  obtain ⟨_, h1, h2, h3⟩ := downsize_spec sb n sb' hd
  have hlt : sb' < sb := by omega
  exact ⟨hlt, h3 hn, Nat.lt_trans (ffs_lt_self sb' (h3 hn) (Nat.lt_trans hlt h64)) h1⟩

theorem downsize_none (sb n : Nat) : downsize sb n = none ↔ n ≤ 2000 := by
  unfold downsize
  by_cases hn : n > 2000
  · rw [if_pos hn]
    exact iff_of_false nofun (Nat.not_le.2 hn)
  · rw [if_neg hn]
    exact iff_of_true rfl (Nat.le_of_not_lt hn)

theorem cmsgAlign_eq (n : Nat) (h : n + 8 < 2^64) : cmsgAlign n = (n + 7) / 8 * 8 :=
  mask8 (n + 7) (by omega)

/-- the aligned size of `struct cmsghdr` -/
theorem cmsgAlign_16 : cmsgAlign 16 = 16 := by decide

theorem cmsgLen_eq (n : Nat) : cmsgLen n = 16 + n := by
  unfold cmsgLen
  rw [cmsgAlign_16]

theorem cmsgSpace_eq (n : Nat) (h : n + 8 < 2^64) : cmsgSpace n = (n + 7) / 8 * 8 + 16 := by
  unfold cmsgSpace
  rw [cmsgAlign_eq n h, cmsgAlign_16]

/-- the writer's buffer (`CMSG_SPACE`) holds header + n descriptors -/
theorem cmsg_writer (n : Nat) (h : 4 * n + 8 < 2^64) : cmsgLen (4 * n) ≤ cmsgSpace (4 * n) := by
  rw [cmsgLen_eq, cmsgSpace_eq _ h]
  omega

/-- the receiver's control buffer takes `n` descriptors iff `n ≤ MAX_FDS_IN_CMSG` -/
theorem cmsg_fits_iff (n : Nat) (h : n < 2^32) :
    cmsgLen (4 * n) ≤ cmsgSpace (4 * maxFdsInCmsg) ↔ n ≤ maxFdsInCmsg := by
  rw [cmsgLen_eq, cmsgSpace_eq _ (by unfold maxFdsInCmsg; decide)]
  unfold maxFdsInCmsg
  omega

/-- `channel_length` as `recv` computes it -/
theorem channelLength_spec (n : Nat) (h : 4 * n + 8 < 2^64) :
    channelLength (cmsgLen (4 * n)) = n ∧ channelLength_safe (cmsgLen (4 * n)) := by
  unfold channelLength channelLength_safe
  rw [cmsgLen_eq, cmsgAlign_16, Nat.add_sub_cancel_left, Nat.mul_div_cancel_left _ (by decide)]
  exact ⟨rfl, Nat.le_add_right ..⟩

end Arith
