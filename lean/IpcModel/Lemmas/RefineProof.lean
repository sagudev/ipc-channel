import IpcModel.Lemmas.RefineBasics
/-!
# `Unix ⊑ Ideal`: the descriptor-level reading and the specification give the same results

`Rel` compares the queues only of the receiving ends that exist, the same on both sides: the kernel keeps unreachable packets, the
specification has destroyed them.  Receiver handles are unique (`UInv`), which is why the destruction cascade of `Ideal` hits only
what has become unreachable at descriptor level (`rel_kill`).

The other operations are compositions of primitive transformers (close descriptors / mark in transit, change one queue,
install / unpack), and in between the embedded receivers exist for neither model although their queues will be compared again.
So `Rel` is split into `Agree S` (channel by channel, queues equal on `S`) and `Own S ph` (`RefineBasics`), with `S` what
existed when the operation began: `Rel u i` gives both (`Rel.agree`, `UInv.own`), each primitive keeps both for the same `S` (a
new channel joins it), and `Rel` comes back from any `S` that contains what exists at the end (`Agree.rel`); it may contain more,
such as a receiver sent over its own channel.
-/
namespace Refine
open Ideal (Handle Msg)
open ListLookup

/-- The simulation relation.  `fields` holds of every channel, existing or not. -/
structure Rel (u : Unix.St) (i : Ideal.St) : Prop where
  len : u.chans.length = i.chans.length
  fields : ∀ (c : Nat) (uc : Unix.Chan) (ic : Ideal.Chan), u.chans[c]? = some uc → i.chans[c]? = some ic → uc.senders = ic.senders ∧ (uc.held = true ↔ ic.rx = .held)
  reachUI : ∀ c, RU u c → RI i c
  reachIU : ∀ c, RI i c → RU u c
  queues : ∀ (c : Nat) (uc : Unix.Chan) (ic : Ideal.Chan), RU u c → u.chans[c]? = some uc → i.chans[c]? = some ic → uc.queue = ic.queue
  inv : UInv u

/-- what `Rel.fields` asks of a channel and its counterpart -/
abbrev Fields (uc : Unix.Chan) (ic : Ideal.Chan) : Prop := uc.senders = ic.senders ∧ (uc.held = true ↔ ic.rx = .held)

/-- … and what is asked where the queues are compared -/
abbrev Live (uc : Unix.Chan) (ic : Ideal.Chan) : Prop := uc.queue = ic.queue ∧ ic.rx ≠ .dropped

/-- The part of `Rel` that speaks of both models, on a set `S` that stays the same across the primitive steps of an operation; how
`S` sits to what exists is `Own`'s business. -/
structure Agree (S : Nat → Prop) (u : Unix.St) (i : Ideal.St) : Prop where
  len : u.chans.length = i.chans.length
  fields : ∀ (c : Nat) (uc : Unix.Chan) (ic : Ideal.Chan), u.chans[c]? = some uc → i.chans[c]? = some ic → Fields uc ic
  live : ∀ (c : Nat) (uc : Unix.Chan) (ic : Ideal.Chan), S c → u.chans[c]? = some uc → i.chans[c]? = some ic → Live uc ic

variable {S : Nat → Prop} {u u' : Unix.St} {i i' : Ideal.St}

theorem Rel.agree (hR : Rel u i) : Agree (RU u) u i :=
  ⟨hR.len, hR.fields, fun c uc ic hc h1 h2 => ⟨hR.queues c uc ic hc h1 h2, ri_not_dropped (hR.reachUI c hc) h2⟩⟩

/-- The two reachability clauses follow: where queues agree and nothing is marked destroyed the two graphs have the same roots and
edges. -/
theorem Agree.rel (hA : Agree S u i) (hO : Own S [] u) : Rel u i := by
  have live := fun c uc ic hc => hA.live c uc ic (hO.reach hc)
  have hroot : ∀ c, c < u.chans.length → (Unix.rootB u c = true ↔ Ideal.rootB i c = true) := by
    intro c hl
    obtain ⟨uc, ic, h1, h2⟩ := get_pair hA.len hl
    rw [Unix.rootB, Ideal.rootB, h1, h2]
    simpa using (hA.fields c uc ic h1 h2).2
  have hcar : ∀ d c, RU u d → Unix.carriesRcv u d c = Ideal.carriesRcv i d c := by
    intro d c hd
    obtain ⟨ud, id, h1, h2⟩ := get_pair hA.len (Reach.reachG_lt hd)
    simp only [Unix.carriesRcv, Ideal.carriesRcv, h1, h2, (live d ud id hd h1 h2).1]
  refine ⟨hA.len, hA.fields, ?_, ?_, fun c uc ic hc h1 h2 => (live c uc ic hc h1 h2).1, hO.uinv⟩
  · intro c h
    induction h with
    | root c hl hr => exact .root c (hA.len ▸ hl) ((hroot c hl).mp hr)
    | edge d c hl hd he ih =>
      -- a carried receiver that exists is labelled `inMsg`: not `dropped`, as it is in `S`; `held` it cannot be beside a
      -- carrier (`held_not_carried`), and that case needs no such argument, being a root
      obtain ⟨uc, ic, h1, h2⟩ := get_pair hA.len hl
      have hnd := (live c uc ic (.edge d c hl hd he) h1 h2).2
      cases hrx : ic.rx with
      | held => exact .root c (hA.len ▸ hl) ((rootI_iff i c).mpr ⟨ic, h2, hrx⟩)
      | dropped => exact absurd hrx hnd
      | inMsg => exact .edge d c (hA.len ▸ hl) ih ((edgeI_iff i d c).mpr ⟨⟨ic, h2, hrx⟩, hcar d c hd ▸ he⟩)
  · intro c h
    induction h with
    | root c hl hr => exact .root c (hA.len ▸ hl) ((hroot c (hA.len ▸ hl)).mpr hr)
    | edge d c hl _ he ih => exact .edge d c (hA.len ▸ hl) ih ((hcar d c ih).trans ((edgeI_iff i d c).mp he).2)

/-- Descriptor level: the descriptors of the held receivers named in `wl` are closed.  Specification: those receivers are
relabelled (`i1`), then destroyed with everything their queues carry (`i'`, characterised as by `dropHandles_char`).  The one step
not composed of the primitive pairs: `kill` is no `Keeps` pair (afterwards the queues differ on part of what existed), so `Agree`
is built by hand, on `RU u'`, to which `S` shrinks here. -/
theorem rel_kill (u u' : Unix.St) (i i1 i' : Ideal.St) (wl : List Handle) (hR : Rel u i)
    (hheld : ∀ x, Handle.rcv x ∈ wl → Unix.rootB u x = true)
    (hu' : ∀ d, u'.chans[d]? = (u.chans[d]?).map fun ch => if wl.contains (.rcv d) then { ch with held := false } else ch)
    (hi1 : ∀ d, ∃ lab : Ideal.RxLoc, lab ≠ .held ∧
      i1.chans[d]? = (i.chans[d]?).map fun ch => if wl.contains (.rcv d) then { ch with rx := lab } else ch)
    (hlu : u'.chans.length = u.chans.length) (hli : i'.chans.length = i.chans.length)
    (hchar : ∀ d, i'.chans[d]? = i1.chans[d]? ∨ (Src i1 wl d ∧ i'.chans[d]? = (i1.chans[d]?).map kill)) : Rel u' i' := by
  have hI := hR.inv
  have hq : ∀ d (ch : Unix.Chan), (if wl.contains (.rcv d) then { ch with held := false } else ch).queue = ch.queue :=
    fun d ch => by split <;> rfl
  have hcar : ∀ d x, Unix.carriesRcv u' d x = Unix.carriesRcv u d x := carries_keep hu' hq
  have hroot' : ∀ x, Unix.rootB u' x = true → Unix.rootB u x = true ∧ ¬ Handle.rcv x ∈ wl := fun x => (root_unhold hu' x).mp
  -- nothing new exists, and no receiver gains a handle
  have hO : Own (RU u) [] u' := hI.own.rehold hu' hq (fun x => Nat.add_le_add_right (heldN_mono fun h => (hroot' x h).1) _)
    (fun x hx => ru_root (hroot' x hx).1) nofun
  -- every descendant of the work list existed, and exists no more: nothing else holds or carries it
  have hgone : ∀ x, Src i1 wl x → RU u x ∧ ¬ RU u' x := by
    intro x hx
    induction hx with
    | base x hx =>
      refine ⟨ru_root (hheld x hx), fun hr => ?_⟩
      cases hr with
      | root _ _ hr => exact (hroot' x hr).2 hx
      | edge d _ _ _ he => exact held_not_carried hI (hheld x hx) (hcar d x ▸ he)
    | step e x ch m _ h1 h2 h3 ih =>
      obtain ⟨lab, _, hl⟩ := hi1 e
      rw [h1, eq_comm, Option.map_eq_some_iff] at hl
      obtain ⟨ch0, hie, hl⟩ := hl
      have hq : ch.queue = ch0.queue := by rw [← hl]; split <;> rfl
      obtain ⟨ue, hue⟩ := get_of_lt (Reach.reachG_lt ih.1)
      have := hR.queues e ue ch0 ih.1 hue hie
      have hc : Unix.carriesRcv u e x = true := (carriesU_iff u e x).mpr ⟨ue, m, hue, by rw [this, ← hq]; exact h2, h3⟩
      refine ⟨ru_edge hI ih.1 hc, fun hr => ?_⟩
      cases hr with
      | root _ _ hr => exact held_not_carried hI (hroot' x hr).1 hc
      | edge d _ _ hd he =>
        cases carried_unique hI hc (hcar d x ▸ he)
        exact ih.2 hd
  -- … so it is untouched by the relabelling and by the cascade
  have hkeep : ∀ x, RU u' x → i'.chans[x]? = i.chans[x]? := by
    intro x hx
    have hns : ¬ Src i1 wl x := fun hs => (hgone x hs).2 hx
    rcases hchar x with h | ⟨h, _⟩
    · obtain ⟨lab, _, hl⟩ := hi1 x
      rw [h, hl]
      have : ¬ wl.contains (Handle.rcv x) = true := fun hc => hns (.base x (by simpa using hc))
      cases i.chans[x]? with
      | none => rfl
      | some ch => rw [Option.map_some, if_neg this]
    · exact absurd h hns
  refine Agree.rel ⟨?_, fun d uc' ic' h1 h2 => ?_, fun x uc' ic' hx h1 h2 => ?_⟩ hO.uinv.own
  · rw [hlu, hli]
    exact hR.len
  · have hroot : uc'.held = true → RU u' d := fun h => ru_root ((rootU_iff u' d).mpr ⟨uc', h1, h⟩)
    rw [hu' d, Option.map_eq_some_iff] at h1
    obtain ⟨uc, hud, rfl⟩ := h1
    obtain ⟨_, ic, _, hid⟩ := get_pair hR.len (lt_of_get hud)
    obtain ⟨hs, hh⟩ := hR.fields d uc ic hud hid
    obtain ⟨lab, hlab, hl⟩ := hi1 d
    rw [hid, Option.map_some] at hl
    rcases hchar d with h | ⟨hsrc, h⟩
    all_goals
      rw [h, hl] at h2
      cases h2
    · by_cases hw : wl.contains (Handle.rcv d) = true
      · simp only [hw, if_true]; exact ⟨hs, by simp [hlab]⟩
      · simp only [hw]; exact ⟨hs, hh⟩
    · -- destroyed, so no longer held: what is held exists
      refine ⟨by split <;> exact hs, fun h => absurd (hroot h) (hgone d hsrc).2, fun h => ?_⟩
      simp only [kill] at h; cases h
  · rw [hkeep x hx] at h2
    rw [hu' x, Option.map_eq_some_iff] at h1
    obtain ⟨uc, hux, rfl⟩ := h1
    have hx0 := hO.reach hx
    refine ⟨?_, ri_not_dropped (hR.reachUI x hx0) h2⟩
    rw [← hR.queues x uc ic' hx0 hux h2]
    split <;> rfl

/-- a pair of channel maps under which the two per-channel clauses of `Agree` survive, each on its own -/
def Keeps (fu : Unix.Chan → Unix.Chan) (fi : Ideal.Chan → Ideal.Chan) : Prop :=
  ∀ uc ic, (Fields uc ic → Fields (fu uc) (fi ic)) ∧ (Live uc ic → Live (fu uc) (fi ic))

theorem Keeps.id : Keeps (fun ch => ch) (fun ch => ch) := fun _ _ => ⟨fun h => h, fun h => h⟩

theorem Keeps.at {f : Unix.Chan → Unix.Chan} {g : Ideal.Chan → Ideal.Chan} (h : Keeps f g) (c d : Nat) :
    Keeps (fun ch => if c = d then f ch else ch) (fun ch => if c = d then g ch else ch) := by
  by_cases hcd : c = d
  · simpa only [if_pos hcd] using h
  · simpa only [if_neg hcd] using Keeps.id

theorem keeps_queue (g : List Msg → List Msg) : Keeps (fun ch => { ch with queue := g ch.queue }) (fun ch => { ch with queue := g ch.queue }) :=
  fun _ _ => ⟨id, fun ⟨hq, hd⟩ => ⟨congrArg g hq, hd⟩⟩

theorem keeps_senders {k : Unix.Chan → Nat} {k' : Ideal.Chan → Nat} (hk : ∀ uc ic, uc.senders = ic.senders → k uc = k' ic) :
    Keeps (fun ch => { ch with senders := k ch }) (fun ch => { ch with senders := k' ch }) :=
  fun _ _ => ⟨fun ⟨hs, hh⟩ => ⟨hk _ _ hs, hh⟩, id⟩

theorem keeps_unhold (b : Bool) :
    Keeps (fun ch => if b then { ch with held := false } else ch) (fun ch => if b then { ch with rx := .inMsg } else ch) := by
  cases b
  · exact Keeps.id
  · exact fun _ _ => ⟨fun ⟨hs, _⟩ => ⟨hs, by simp⟩, fun ⟨hq, _⟩ => ⟨hq, nofun⟩⟩

theorem keeps_install (b : Bool) (n : Nat) :
    Keeps (fun ch => { ch with held := ch.held || b, senders := ch.senders + n })
      (fun ch => { ch with rx := if b then .held else ch.rx, senders := ch.senders + n }) := by
  cases b
  · exact fun _ _ => ⟨fun ⟨hs, hh⟩ => ⟨congrArg (· + n) hs, by simpa using hh⟩, id⟩
  · exact fun _ _ => ⟨fun ⟨hs, _⟩ => ⟨congrArg (· + n) hs, by simp⟩, fun ⟨hq, _⟩ => ⟨hq, nofun⟩⟩

/-- Nothing is asked of `S`, of validity or of what exists: that side is `Own`'s. -/
theorem Agree.map (hA : Agree S u i) {fu : Nat → Unix.Chan → Unix.Chan} {fi : Nat → Ideal.Chan → Ideal.Chan}
    (hu' : ∀ d, u'.chans[d]? = (u.chans[d]?).map (fu d)) (hi' : ∀ d, i'.chans[d]? = (i.chans[d]?).map (fi d))
    (hk : ∀ d, Keeps (fu d) (fi d)) : Agree S u' i' := by
  have back : ∀ d uc' ic', u'.chans[d]? = some uc' → i'.chans[d]? = some ic' →
      ∃ uc ic, u.chans[d]? = some uc ∧ i.chans[d]? = some ic ∧ fu d uc = uc' ∧ fi d ic = ic' := by
    intro d uc' ic' h1 h2
    rw [hu', Option.map_eq_some_iff] at h1
    rw [hi', Option.map_eq_some_iff] at h2
    obtain ⟨uc, a1, a2⟩ := h1
    obtain ⟨ic, b1, b2⟩ := h2
    exact ⟨uc, ic, a1, b1, a2, b2⟩
  refine ⟨?_, fun d uc' ic' h1 h2 => ?_, fun d uc' ic' hd h1 h2 => ?_⟩
  · have hlu : u'.chans.length = u.chans.length := length_eq_of_isSome fun d => by simp [hu']
    have hli : i'.chans.length = i.chans.length := length_eq_of_isSome fun d => by simp [hi']
    rw [hlu, hli]
    exact hA.len
  · obtain ⟨uc, ic, a, b, rfl, rfl⟩ := back d uc' ic' h1 h2
    exact (hk d uc ic).1 (hA.fields d uc ic a b)
  · obtain ⟨uc, ic, a, b, rfl, rfl⟩ := back d uc' ic' h1 h2
    exact (hk d uc ic).2 (hA.live d uc ic hd a b)

theorem Agree.modify (hA : Agree S u i) (c : Nat) {f : Unix.Chan → Unix.Chan} {g : Ideal.Chan → Ideal.Chan} (hk : Keeps f g) :
    Agree S (Unix.modify u c f) (Ideal.modify i c g) :=
  hA.map (Unix.modify_get u c f) (Ideal.modify_get i c g) fun d => hk.at c d

theorem Agree.senders (hA : Agree S u i) (c : Nat) {k : Unix.Chan → Nat} {k' : Ideal.Chan → Nat}
    (hk : ∀ uc ic, uc.senders = ic.senders → k uc = k' ic) :
    Agree S (Unix.modify u c fun ch => { ch with senders := k ch }) (Ideal.modify i c fun ch => { ch with senders := k' ch }) :=
  hA.modify c (keeps_senders hk)

theorem Agree.requeue (hA : Agree S u i) (c : Nat) (g : List Msg → List Msg) :
    Agree S (Unix.modify u c fun ch => { ch with queue := g ch.queue }) (Ideal.modify i c fun ch => { ch with queue := g ch.queue }) :=
  hA.modify c (keeps_queue g)

theorem Agree.unhold (hA : Agree S u i) (hs : List Handle) : Agree S (Unix.unhold u hs) (Ideal.markInMsg i hs) :=
  hA.map (Unix.unhold_get u hs) (Ideal.markInMsg_get hs i) fun _ => keeps_unhold _

theorem Agree.install (hA : Agree S u i) (hs : List Handle) : Agree S (Unix.install u hs) (Ideal.unpack i hs) :=
  hA.map (Unix.install_get u hs) (Ideal.unpack_get hs i) fun _ => keeps_install _ _

theorem Agree.newChan (hA : Agree S u i) :
    Agree (fun x => S x ∨ x = u.chans.length) ⟨u.chans ++ [⟨[], 1, true⟩]⟩ ⟨i.chans ++ [⟨[], 1, .held⟩]⟩ := by
  refine ⟨?_, fun d uc ic h1 h2 => ?_, fun d uc ic hd h1 h2 => ?_⟩
  · simp only [List.length_append, List.length_singleton, hA.len]
  · rcases get_concat_both hA.len h1 h2 with ⟨h1, h2⟩ | ⟨_, rfl, rfl⟩
    · exact hA.fields d uc ic h1 h2
    · exact ⟨rfl, by simp⟩
  · rcases get_concat_both hA.len h1 h2 with ⟨h1, h2⟩ | ⟨_, rfl, rfl⟩
    · exact hA.live d uc ic (hd.resolve_right (Nat.ne_of_lt (lt_of_get h1))) h1 h2
    · exact ⟨rfl, nofun⟩

theorem alive_eq (hR : Rel u i) (c : Nat) : (Unix.alive u).contains c = (Ideal.rxAlive i).contains c := by
  have h : c ∈ Unix.alive u ↔ c ∈ Ideal.rxAlive i := by
    rw [mem_alive, mem_rxAlive]; exact ⟨hR.reachUI c, hR.reachIU c⟩
  exact Bool.eq_iff_iff.mpr (by simpa using h)

theorem senderOpen_eq (hR : Rel u i) (c : Nat) : Unix.senderOpen u c = Ideal.senderExists i c := by
  unfold Unix.senderOpen Ideal.senderExists
  congr 1
  · rcases get_both hR.len c with ⟨h1, h2⟩ | ⟨uc, ic, h1, h2⟩
    · rw [h1, h2]
    · rw [h1, h2]
      show decide (0 < uc.senders) = decide (0 < ic.senders)
      rw [(hR.fields c uc ic h1 h2).1]
  · have hq : ∀ d, RU u d → Unix.carriesSnd u d c =
        (match i.chans[d]? with | some chd => chd.queue.any fun m => m.handles.contains (.snd c) | none => false) := by
      intro d hd
      obtain ⟨ud, id, a1, b1⟩ := get_pair hR.len (Reach.reachG_lt hd)
      simp only [Unix.carriesSnd, a1, b1, hR.queues d ud id hd a1 b1]
    apply Bool.eq_iff_iff.mpr
    simp only [List.any_eq_true, mem_alive, mem_rxAlive]
    exact ⟨fun ⟨d, hd, hc⟩ => ⟨d, hR.reachUI d hd, (hq d hd).symm.trans hc⟩,
      fun ⟨d, hd, hc⟩ => ⟨d, hR.reachIU d hd, (hq d (hR.reachIU d hd)).trans hc⟩⟩

end Refine
