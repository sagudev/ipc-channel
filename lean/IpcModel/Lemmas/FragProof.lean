import IpcModel.Frag
import IpcModel.Lemmas.Arith
import IpcModel.Lemmas.ListLookup
/-! The transmission loop and the reassembly loop (helper lemmas; the property theorems are in `Props/`).

The fragment loop is opened once, by `fragLoop_run`, which gives its trace for every input as a `Run`: a list of attempts, each
advancing or using up a fault.  Termination and "descriptors once" are read off the `Run` for every buffer size; what the receiver
makes of the packets, and that each is in range and fits, where the loop's precondition `Pre` held at entry.  `sendLoop_cases`
says how `send` enters the loop and hands out the `Run`, so the general theorems mention neither `sendLoop`'s body nor `fragLoop`. -/
namespace Frag
open Gen Arith

/-- size of the packet an attempt hands to the kernel (header included for packets on the channel socket) -/
def attBytes : Att → Nat
  | .single len _ => 8 + len
  | .sock => 0
  | .first lo hi _ _ => 8 + (hi - lo)
  | .follow lo hi _ => hi - lo

/-- an attempt's slice is inside the data and non-empty -/
def attInRange (len : Nat) : Att → Prop
  | .single l _ => l = len
  | .sock => True
  | .first lo hi total _ => lo = 0 ∧ lo < hi ∧ hi ≤ len ∧ total = len
  | .follow lo hi _ => 0 < lo ∧ lo < hi ∧ hi ≤ len

/-- the single packet or a first fragment carries at most `first_fragment_size(sys)` payload bytes: what the receiver's first
buffer offers -/
def attFirstOk (sys : Nat) : Att → Prop
  | .single l _ => l ≤ firstFragmentSize sys
  | .first lo hi _ _ => hi - lo ≤ firstFragmentSize sys
  | _ => True

/-- what holds of every attempt of a `send` (`sendLoop_bounds`): C01_fits, C18_slices and C18_protocol each read a part of it -/
structure AttOk (sys len : Nat) (a : Att) : Prop where
  range : attInRange len a
  bytes : attBytes a ≤ fragmentSize sys
  first : attFirstOk sys a

/-- what the receiver's follow-up loop answers once the sender is done (or dead): the message iff it is complete -/
def expected (d : List α) (r : Res) (eof : Bool) : RRes α :=
  match r with
  | .ok => .ok d
  | _ => if eof then .closed else .block

/-- number of delivered packets that carry the descriptors (single packet or first fragment) -/
def fdCarriers : List Att → Nat
  | [] => 0
  | .single _ .none :: r => 1 + fdCarriers r
  | .first _ _ _ .none :: r => 1 + fdCarriers r
  | _ :: r => fdCarriers r

theorem fdCarriers_mkAtt (len pos e : Nat) (f : Fault) (l : List Att) :
    fdCarriers (mkAtt len pos e f :: l) = if pos = 0 ∧ f = .none then 1 + fdCarriers l else fdCarriers l := by
  unfold mkAtt
  -- six like goals, a first fragment or a follow-up under each of the three faults: both sides compute
  split <;> cases f <;> simp [fdCarriers, *]

theorem fdCarriers_mkAtt_le (len pos e : Nat) (f : Fault) : fdCarriers [mkAtt len pos e f] ≤ if pos = 0 then 1 else 0 := by
  rw [fdCarriers_mkAtt]
  split
  · next h =>
    rw [if_pos h.1]
    exact Nat.le_refl _
  · exact Nat.zero_le _

theorem nextFault_length (faults : List Fault) :
    (nextFault faults).2.length ≤ faults.length ∧
    ((nextFault faults).1 ≠ .none → (nextFault faults).2.length + 1 = faults.length) := by
  cases faults with
  | nil => exact ⟨Nat.le_refl _, fun h => absurd rfl h⟩
  | cons a t => exact ⟨Nat.le_succ _, fun _ => rfl⟩

theorem nextFault_none (hf : ∀ f ∈ faults, f = Fault.none) :
    (nextFault faults).1 = .none ∧ ∀ f ∈ (nextFault faults).2, f = Fault.none := by
  cases faults with
  | nil => exact ⟨rfl, hf⟩
  | cons a t => exact ⟨hf a (List.mem_cons_self ..), fun f h => hf f (List.mem_cons_of_mem _ h)⟩

/-- what the fragment loop needs of its state `(pos, sb)`.  `sb` starts at `sys` or at its first downsizing, and `downsize`, which
halves only packets of more than 2000 bytes, keeps it at 1000 or more: hence `1000 ≤ sys` in every theorem (`sys < 2^64` is for
the mask in `first_fragment_size`).  While nothing is sent, the message is too long for the first fragment. -/
structure Pre (sys len pos sb : Nat) : Prop where
  sys64 : sys < 2^64
  sb_ge : 1000 ≤ sb
  sb_le : sb ≤ sys
  first : pos = 0 → firstFragmentSize sb < len

/-- `[pos, e)` is a slice the loop may send at `pos`: within the kernel's limit `fragment_size(sys)`; a first fragment
(8 bytes of header more) also within the buffer the receiver offers for it, and never the whole message -/
structure Slice (sys len pos e : Nat) : Prop where
  lt : pos < e
  le : e ≤ len
  bytes : e - pos ≤ fragmentSize sys
  firstBytes : pos = 0 → 8 + e ≤ fragmentSize sys
  firstBuf : pos = 0 → e ≤ firstFragmentSize sys
  firstPart : pos = 0 → e < len

theorem Pre.sb64 (h : Pre sys len pos sb) : sb < 2^64 := Nat.lt_of_le_of_lt h.sb_le h.sys64

theorem Pre.slice (h : Pre sys len pos sb) (hlt : pos < len) : Slice sys len pos (endPos len pos sb) := by
  have ⟨h1, h2, _⟩ := ffs_lt sb h.sb_ge h.sb64
  have hf := fs_mono sb sys h.sb_le
  unfold endPos endFirst
  split
  · next hp =>
    subst hp
    have h8 : 8 + firstFragmentSize sb ≤ fragmentSize sys := by omega
    exact { lt := h1, le := Nat.le_of_lt (h.first rfl), bytes := Nat.le_of_add_left_le h8, firstBytes := fun _ => h8,
            firstBuf := fun _ => ffs_mono sb sys h.sb_le h.sys64, firstPart := h.first }
  · next hp =>
    have ⟨h3, h4, h5⟩ := endFollow_spec len pos sb hlt (Nat.lt_of_lt_of_le h1 (Nat.le_of_add_right_le h2))
    exact { lt := h3, le := h4, bytes := Nat.le_trans h5 hf,
            firstBytes := (absurd · hp), firstBuf := (absurd · hp), firstPart := (absurd · hp) }

theorem Pre.down (h : Pre sys len pos sb) (hlt : pos < len)
    (hd : downsize sb (sentSize pos (endPos len pos sb)) = some sb') : sb' < sb ∧ Pre sys len pos sb' := by
  -- the packet that failed was cut for `sb` itself, so it is shorter than `sb`
  have hs : Slice sb len pos (endPos len pos sb) := Pre.slice { h with sys64 := h.sb64, sb_le := Nat.le_refl _ } hlt
  have hn := Nat.le_of_lt (Nat.lt_of_le_of_lt hs.bytes (ffs_lt sb h.sb_ge h.sb64).2.2)
  have ⟨h1, h2, h3⟩ := downsize_next sb _ sb' h.sb_ge h.sb64 hn hd
  have hfirst : firstFragmentSize sb' < len := Nat.lt_of_lt_of_le h3 (Nat.le_trans (Nat.sub_le _ _) hs.le)
  exact ⟨h1, { h with sb_ge := h2, sb_le := Nat.le_trans (Nat.le_of_lt h1) h.sb_le, first := fun _ => hfirst }⟩

theorem Slice.att (h : Slice sys len pos e) (f : Fault) : AttOk sys len (mkAtt len pos e f) := by
  unfold mkAtt
  split
  · next hp =>
    subst hp
    exact ⟨⟨rfl, h.lt, h.le, rfl⟩, h.firstBytes rfl, h.firstBuf rfl⟩
  · next hp => exact ⟨⟨Nat.pos_of_ne_zero hp, h.lt, h.le⟩, h.bytes, trivial⟩

/-- the traces of the fragment loop from `pos` on under the faults `fs`.  `P` is any proposition, fixed from outside for the whole
run (not `Pre` at the current state): where it holds, every attempt takes a legal slice and no `panic` exit is taken.  It is there
because `sendLoop_cases` hands out one `Run` for every `sys`: `C13_fds_once` and `C13_terminates` assume nothing of `sys` (for
them `sent` has `pos < e ∧ e ≤ len` outright), the other theorems supply `P := 1000 ≤ sys ∧ sys < 2^64`, `fragLoop_spec`
`P := True`.  `Run` forgets `sb` and does not tie `e` to `endPos`: a fact that depends on them needs `fragLoop_run` reopened. -/
inductive Run (sys len : Nat) (P : Prop) : Nat → List Fault → Res → List Att → Prop
  | done : len ≤ pos → Run sys len P pos fs .ok []
  | sent : (nextFault fs).1 = .none → pos < e ∧ e ≤ len → (P → Slice sys len pos e) → Run sys len P e (nextFault fs).2 r l →
      Run sys len P pos fs r (mkAtt len pos e .none :: l)
  | retry : (nextFault fs).1 ≠ .none → (P → Slice sys len pos e) → Run sys len P pos (nextFault fs).2 r l →
      Run sys len P pos fs r (mkAtt len pos e (nextFault fs).1 :: l)
  | fail : (nextFault fs).1 ≠ .none → (P → Slice sys len pos e) → Run sys len P pos fs .err [mkAtt len pos e (nextFault fs).1]
  | panic : ¬ P → Run sys len P pos fs .panic [mkAtt len pos e f]

/- The cases of `fun_induction fragLoop`, in the order of its branches: (1) delivered; (2) `ENOBUFS`, retry with the smaller buffer
`sb'`; (3) `ENOBUFS`, `downsize` offers no smaller buffer: `panic`; (4) `ENOBUFS`, nothing to downsize to: error; (5) fatal: error;
(6) the slice is empty or out of range: `panic`; (7) nothing left to send: done. -/
theorem fragLoop_run (h : P → Pre sys len pos sb) (fs : List Fault) :
    Run sys len P pos fs (fragLoop len pos sb fs).1 (fragLoop len pos sb fs).2 := by
  fun_induction fragLoop len pos sb fs with
  | case1 pos sb faults hlt endp f rest att hprog hf r ih =>
    show Run sys len P pos faults r.1 (mkAtt len pos endp f :: r.2)
    rw [show f = .none from hf]
    -- `Pre` at `endp`: only `first` mentions the position, and `endp` is not 0
    exact .sent hf hprog (fun p => (h p).slice hlt) (ih fun p =>
      { h p with first := fun h0 => absurd (Nat.lt_of_lt_of_eq hprog.1 h0) (Nat.not_lt_zero _) })
  | case2 pos sb faults hlt endp f rest att hprog hf sb' hd hsb' r ih =>
    exact .retry (hf ▸ nofun : f ≠ .none) (fun p => (h p).slice hlt) (ih fun p => ((h p).down hlt hd).2)
  | case3 pos sb faults hlt endp f att hprog hf sb' hd hnsb => exact .panic fun p => hnsb ((h p).down hlt hd).1
  | case4 pos sb faults hlt endp f att hprog hf hd => exact .fail (hf ▸ nofun : f ≠ .none) fun p => (h p).slice hlt
  | case5 pos sb faults hlt endp f att hprog hf => exact .fail (hf ▸ nofun : f ≠ .none) fun p => (h p).slice hlt
  | case6 pos sb faults hlt endp f att hnprog => exact .panic fun p => hnprog ⟨((h p).slice hlt).lt, ((h p).slice hlt).le⟩
  | case7 pos sb faults hnlt => exact .done (Nat.le_of_not_lt hnlt)

theorem Run.nofault (h : Run sys len P pos fs r l) (hf : ∀ f ∈ fs, f = Fault.none) : r ≠ .err := by
  induction h with
  | done | panic => nofun
  | sent _ _ _ _ ih => exact ih (nextFault_none hf).2
  | retry hne | fail hne => exact absurd (nextFault_none hf).1 hne

/-- only an attempt at position 0 can carry the descriptors, and the first one delivered leaves position 0 -/
theorem Run.carriers (h : Run sys len P pos fs r l) :
    fdCarriers l ≤ (if pos = 0 then 1 else 0) ∧ (r = .ok → pos < len → fdCarriers l = if pos = 0 then 1 else 0) := by
  induction h with
  | done hle => exact ⟨Nat.zero_le _, fun _ h => absurd h (Nat.not_lt.2 hle)⟩
  | @sent fs pos e r l _ hprog _ _ ih =>
    have h0 := ih.1
    rw [if_neg (Nat.ne_zero_of_lt hprog.1)] at h0
    have : fdCarriers (mkAtt len pos e .none :: l) = if pos = 0 then 1 else 0 := by
      simp only [fdCarriers_mkAtt, Nat.le_zero.1 h0, and_true]
    exact ⟨Nat.le_of_eq this, fun _ _ => this⟩
  | retry hne _ _ ih =>
    rw [fdCarriers_mkAtt, if_neg fun h => hne h.2]
    exact ih
  | fail | panic => exact ⟨fdCarriers_mkAtt_le .., nofun⟩

/-- every attempt either consumes a fault or advances by at least one byte -/
theorem Run.length_le (h : Run sys len P pos fs r l) : l.length ≤ fs.length + (len - pos) + 1 := by
  induction h with
  | done => exact Nat.zero_le _
  | @sent fs pos e r l _ hprog _ _ ih =>
    have := (nextFault_length fs).1
    show l.length + 1 ≤ _
    omega
  | @retry fs pos e r l hne _ _ ih =>
    have := (nextFault_length fs).2 hne
    show l.length + 1 ≤ _
    omega
  | fail | panic => exact Nat.le_add_left ..

theorem Run.ne_panic (h : Run sys len P pos fs r l) (p : P) : r ≠ .panic := by
  induction h with
  | done | fail => nofun
  | sent _ _ _ _ ih => exact ih
  | retry _ _ _ ih => exact ih
  | panic np => exact absurd p np

theorem Run.bounds (h : Run sys len P pos fs r l) (p : P) : ∀ a ∈ l, AttOk sys len a := by
  induction h with
  | done => nofun
  | sent _ _ hs _ ih => exact List.forall_mem_cons.2 ⟨(hs p).att _, ih⟩
  | retry _ hs _ ih => exact List.forall_mem_cons.2 ⟨(hs p).att _, ih⟩
  | fail _ hs => exact List.forall_mem_cons.2 ⟨(hs p).att _, nofun⟩
  | panic np => exact absurd p np

theorem failed_pkts (d : List α) {len pos e : Nat} {l : List Att} (hf : f ≠ .none) :
    firstPkt d (mkAtt len pos e f :: l) = firstPkt d l ∧ followPkts d (mkAtt len pos e f :: l) = followPkts d l := by
  unfold mkAtt
  cases f with
  | none => exact absurd rfl hf
  | enobufs => split <;> exact ⟨rfl, rfl⟩
  | fatal => split <;> exact ⟨rfl, rfl⟩

theorem recvFollow_step (sys : Nat) (d : List α) {pos endp : Nat} {q : List (List α)} (eof : Bool)
    (h1 : pos < endp) (h2 : endp ≤ d.length) (h3 : endp - pos ≤ fragmentSize sys) :
    recvFollow sys d.length (d.take pos) ((d.take endp).drop pos :: q) eof
      = recvFollow sys d.length (d.take endp) q eof := by
  have hl : (d.take pos).length = pos := List.length_take_of_le (Nat.le_trans (Nat.le_of_lt h1) h2)
  have hp : ((d.take endp).drop pos).length = endp - pos := by rw [List.length_drop, List.length_take_of_le h2]
  -- the window offered, `recvEnd − pos`, is the smaller of `fragmentSize sys` and what is still owed
  have hw : endp - pos ≤ recvEnd sys pos d.length - pos :=
    Nat.sub_le_sub_right (Nat.le_min.2 ⟨Nat.sub_le_iff_le_add'.1 h3, h2⟩) pos
  have hpos : 0 < endp - pos := Nat.sub_pos_of_lt h1
  rw [recvFollow, hl, hp, if_pos (Nat.lt_of_lt_of_le h1 h2)]
  -- neither the packet nor the window is empty, and the packet fits the window
  rw [if_neg (not_or.2 ⟨Nat.ne_of_gt hpos, Nat.ne_of_gt (Nat.lt_of_lt_of_le hpos hw)⟩), if_neg (Nat.not_lt.2 hw),
    ListLookup.take_append_slice d pos endp (Nat.le_of_lt h1)]

theorem recvFollow_nil (sys total : Nat) (buf : List α) (eof : Bool) :
    recvFollow sys total buf [] eof = if buf.length < total then (if eof then .closed else .block) else .ok buf := by
  rw [recvFollow]

/-- A delivered follow-up is within the receiver's window (`Slice.bytes`, `recvFollow_step`), a failed attempt leaves no packet.
From position 0 the first packet delivered is a first fragment `d.take e`, and the same is said from `e` on. -/
theorem Run.recv {d : List α} (h : Run sys d.length P pos fs r l) (p : P) :
    (pos ≠ 0 → firstPkt d l = none ∧
      ∀ eof, recvFollow sys d.length (d.take pos) (followPkts d l) eof = expected d r eof) ∧
    (pos = 0 → 0 < d.length →
      (firstPkt d l = none ∧ followPkts d l = [] ∧ r = .err)
      ∨ ∃ e, 0 < e ∧ e < d.length ∧ e ≤ firstFragmentSize sys ∧
          firstPkt d l = some ⟨d.length, d.take e, true⟩ ∧
          ∀ eof, recvFollow sys d.length (d.take e) (followPkts d l) eof = expected d r eof) := by
  induction h with
  | done hle =>
    refine ⟨fun _ => ⟨rfl, fun eof => ?_⟩, fun hp hl => absurd hl (Nat.not_lt.2 (hp ▸ hle))⟩
    rw [List.take_of_length_le hle]
    exact (recvFollow_nil ..).trans (if_neg (Nat.lt_irrefl _))
  | sent _ _ hs _ ih =>
    have hs := hs p
    have ⟨h1, h2⟩ := ih.1 (Nat.ne_zero_of_lt hs.lt)
    refine ⟨fun hp => ?_, fun hp _ => ?_⟩
    · rw [mkAtt, if_neg hp]
      exact ⟨h1, fun eof => (recvFollow_step sys d eof hs.lt hs.le hs.bytes).trans (h2 eof)⟩
    · subst hp
      exact .inr ⟨_, hs.lt, hs.firstPart rfl, hs.firstBuf rfl, rfl, h2⟩
  | retry hf _ _ ih =>
    rw [(failed_pkts d hf).1, (failed_pkts d hf).2]
    exact ih
  | fail hf hs =>
    rw [(failed_pkts d hf).1, (failed_pkts d hf).2]
    -- the receiver holds less than the whole message
    have hlt := Nat.lt_of_le_of_lt (List.length_take_le _ d) (Nat.lt_of_lt_of_le (hs p).lt (hs p).le)
    exact ⟨fun _ => ⟨rfl, fun eof => (recvFollow_nil ..).trans (if_pos hlt)⟩, fun _ _ => .inl ⟨rfl, rfl, rfl⟩⟩
  | panic np => exact absurd p np

/-- **The loop invariant of `send`'s fragment loop, for every fault stream**: `Run.ne_panic` and `Run.recv` at `P := True`, in the
words in which the prototype stated it (`hpl` is not needed, and the first conjunct under `0 < pos` says nothing). -/
theorem fragLoop_spec (sys : Nat) (d : List α) (pos sb : Nat) (faults : List Fault)
    (hsys : sys < 2^64) (hsb : 1000 ≤ sb) (hle : sb ≤ sys)
    (h0 : pos = 0 → firstFragmentSize sb < d.length) (hpl : pos ≤ d.length) :
    (fragLoop d.length pos sb faults).1 ≠ .panic ∧
    (0 < pos → followPkts d (fragLoop d.length pos sb faults).2 = followPkts d (fragLoop d.length pos sb faults).2 ∧
       firstPkt d (fragLoop d.length pos sb faults).2 = none ∧
       ∀ eof, recvFollow sys d.length (d.take pos) (followPkts d (fragLoop d.length pos sb faults).2) eof
          = expected d (fragLoop d.length pos sb faults).1 eof) ∧
    (pos = 0 →
       (firstPkt d (fragLoop d.length pos sb faults).2 = none ∧
          followPkts d (fragLoop d.length pos sb faults).2 = [] ∧ (fragLoop d.length pos sb faults).1 = .err)
       ∨ ∃ e, 0 < e ∧ e < d.length ∧ e ≤ firstFragmentSize sys ∧
          firstPkt d (fragLoop d.length pos sb faults).2 = some ⟨d.length, d.take e, true⟩ ∧
          ∀ eof, recvFollow sys d.length (d.take e) (followPkts d (fragLoop d.length pos sb faults).2) eof
            = expected d (fragLoop d.length pos sb faults).1 eof) := by
  have hr := fragLoop_run (fun _ : True => ⟨hsys, hsb, hle, h0⟩) faults
  have hv := hr.recv trivial
  exact ⟨hr.ne_panic trivial, fun hp => ⟨rfl, hv.1 (Nat.ne_of_gt hp)⟩, fun hp => hv.2 hp (Nat.zero_lt_of_lt (h0 hp))⟩

theorem recvMsg_single (sys : Nat) (d : List α) {ded : List (List α)} (eof : Bool) (h : d.length ≤ firstFragmentSize sys) :
    recvMsg sys ⟨d.length, d, false⟩ ded eof = .ok d := by
  have h' : ¬ recvFirstBuf sys < d.length := Nat.not_lt.2 h
  simp only [recvMsg, if_neg h', if_true]

theorem recvMsg_first (sys : Nat) (d : List α) (e : Nat) {ded : List (List α)} (eof : Bool)
    (h : e ≤ firstFragmentSize sys) (hlt : e < d.length) :
    recvMsg sys ⟨d.length, d.take e, true⟩ ded eof = recvFollow sys d.length (d.take e) ded eof := by
  have hl : (d.take e).length = e := List.length_take_of_le (Nat.le_of_lt hlt)
  have h' : ¬ recvFirstBuf sys < e := Nat.not_lt.2 h
  simp only [recvMsg, hl]
  rw [if_neg h', if_neg (Nat.ne_of_gt hlt), if_neg (Nat.lt_asymm hlt), if_neg nofun]

/-- how `send` enters the fragment loop: with the attempts `pre` behind it (none, or the single packet refused with `ENOBUFS`)
and the faults `rest` still to come -/
structure Entry (sys len : Nat) (faults : List Fault) (pre : List Att) (rest : List Fault) : Prop where
  nonempty : 0 < len
  cases : pre = [] ∧ firstFragmentSize sys < len ∧ rest = faults ∨
    pre = [.single len .enobufs] ∧ len ≤ firstFragmentSize sys ∧ faults = .enobufs :: rest

theorem Entry.pre_eq (h : Entry sys len faults pre rest) : pre = [] ∨ pre = [.single len .enobufs] :=
  h.cases.imp And.left And.left

theorem sendLoop_cases (sys len : Nat) (faults : List Fault) :
    (len ≤ firstFragmentSize sys ∧ sendLoop sys len faults =
      (if (nextFault faults).1 = .none then .ok else .err, [.single len (nextFault faults).1])) ∨
    ∃ pre rest r l, sendLoop sys len faults = (r, pre ++ .sock :: l) ∧
      Run sys len (1000 ≤ sys ∧ sys < 2^64) 0 rest r l ∧ Entry sys len faults pre rest := by
  unfold sendLoop singleTest
  by_cases hs : len ≤ firstFragmentSize sys
  · rw [decide_eq_true hs, if_pos rfl]
    -- the next fault: none left, `none`, `enobufs`, `fatal`; only `enobufs` with a buffer to downsize to enters the loop
    rcases faults with _ | ⟨_ | _ | _, rest⟩
    · exact .inl ⟨hs, rfl⟩
    · exact .inl ⟨hs, rfl⟩
    · cases hd : downsize sys len with
      | none => exact .inl ⟨hs, rfl⟩
      | some sb =>
        refine .inr ⟨_, rest, _, _, rfl, fragLoop_run (fun h => ?_) rest,
          { nonempty := Nat.zero_lt_of_lt (downsize_spec sys len sb hd).1, cases := .inr ⟨rfl, hs, rfl⟩ }⟩
        have hle : len ≤ sys := Nat.le_trans hs (Nat.le_of_lt (ffs_lt_self sys h.1 h.2))
        have ⟨h1, h2, h3⟩ := downsize_next sys len sb h.1 h.2 hle hd
        exact { sys64 := h.2, sb_ge := h2, sb_le := Nat.le_of_lt h1, first := fun _ => h3 }
    · exact .inl ⟨hs, rfl⟩
  · rw [decide_eq_false hs, if_neg nofun]
    have hs := Nat.lt_of_not_le hs
    exact .inr ⟨[], faults, _, _, rfl,
      fragLoop_run (fun h => { sys64 := h.2, sb_ge := h.1, sb_le := Nat.le_refl _, first := fun _ => hs }) faults,
      { nonempty := Nat.zero_lt_of_lt hs, cases := .inl ⟨rfl, hs, rfl⟩ }⟩

theorem sendLoop_bounds (sys len : Nat) (faults : List Fault) (h : 1000 ≤ sys) (h64 : sys < 2^64) :
    ∀ a ∈ (sendLoop sys len faults).2, AttOk sys len a := by
  have single : ∀ f, len ≤ firstFragmentSize sys → AttOk sys len (.single len f) := fun f hs =>
    have hb : attBytes (.single len f) ≤ fragmentSize sys := by
      have := (ffs_lt sys h h64).2.1
      show 8 + len ≤ _
      omega
    ⟨rfl, hb, hs⟩
  have sock : AttOk sys len .sock := ⟨trivial, Nat.zero_le _, trivial⟩
  rcases sendLoop_cases sys len faults with ⟨hs, he⟩ | ⟨pre, rest, r, l, he, hR, hE⟩
  · rw [he]
    exact List.forall_mem_cons.2 ⟨single _ hs, nofun⟩
  · rw [he]
    have hr := hR.bounds ⟨h, h64⟩
    rcases hE.cases with ⟨rfl, _⟩ | ⟨rfl, hs, _⟩
    · exact List.forall_mem_cons.2 ⟨sock, hr⟩
    · exact List.forall_mem_cons.2 ⟨single _ hs, List.forall_mem_cons.2 ⟨sock, hr⟩⟩

theorem sendLoop_firstFits (sys len : Nat) (faults : List Fault) (h : 1000 ≤ sys) (h64 : sys < 2^64) :
    ∀ a ∈ (sendLoop sys len faults).2, attFirstOk sys a :=
  fun a ha => (sendLoop_bounds sys len faults h h64 a ha).first

theorem sendLoop_nofault (sys len : Nat) (faults : List Fault) (h : 1000 ≤ sys) (h64 : sys < 2^64)
    (hf : ∀ f ∈ faults, f = Fault.none) : (sendLoop sys len faults).1 = .ok := by
  rcases sendLoop_cases sys len faults with ⟨_, he⟩ | ⟨pre, rest, r, l, he, hR, hE⟩
  · rw [he, if_pos (nextFault_none hf).1]
  · rw [he]
    have hrest : ∀ f ∈ rest, f = Fault.none := by
      rcases hE.cases with ⟨_, _, rfl⟩ | ⟨_, _, rfl⟩
      · exact hf
      · cases hf _ (List.mem_cons_self ..)
    cases r with
    | ok => rfl
    | err => exact absurd rfl (hR.nofault hrest)
    | panic => exact absurd rfl (hR.ne_panic ⟨h, h64⟩)

/-- **what the receiver makes of one `send`**, whatever the fault stream: either the send failed before anything reached
the channel socket, or the receiver's answer is the message if `send` succeeded and "not yet / never complete" if not.
The first packet is the whole message, which then fits `first_fragment_size(sys)` and was the only attempt, or a strictly
shorter first fragment; with no fault at all the latter only of a message that does not fit. -/
theorem sendLoop_recv (sys : Nat) (d : List α) (faults : List Fault) (h : 1000 ≤ sys) (h64 : sys < 2^64) :
    ((sendLoop sys d.length faults).1 = .err ∧ firstPkt d (sendLoop sys d.length faults).2 = none) ∨
    ∃ p, firstPkt d (sendLoop sys d.length faults).2 = some p ∧
      ((sendLoop sys d.length faults).2 = [.single d.length .none] ∧ p = ⟨d.length, d, false⟩ ∧
          d.length ≤ firstFragmentSize sys ∨
        ∃ e, e < d.length ∧ p = ⟨d.length, d.take e, true⟩ ∧ (faults = [] → firstFragmentSize sys < d.length)) ∧
      ∀ eof, recvMsg sys p (followPkts d (sendLoop sys d.length faults).2) eof
        = expected d (sendLoop sys d.length faults).1 eof := by
  rcases sendLoop_cases sys d.length faults with ⟨hs, he⟩ | ⟨pre, rest, r, l, he, hR, hE⟩
  · rw [he]
    cases (nextFault faults).1 with
    | none => exact .inr ⟨_, rfl, .inl ⟨rfl, rfl, hs⟩, fun eof => recvMsg_single sys d eof hs⟩
    | enobufs => exact .inl ⟨rfl, rfl⟩
    | fatal => exact .inl ⟨rfl, rfl⟩
  · rw [he]
    have hlong : faults = [] → firstFragmentSize sys < d.length := by
      rcases hE.cases with ⟨_, hs, _⟩ | ⟨_, _, rfl⟩
      · exact fun _ => hs
      · nofun
    have hp : firstPkt d (pre ++ .sock :: l) = firstPkt d l ∧ followPkts d (pre ++ .sock :: l) = followPkts d l := by
      rcases hE.pre_eq with rfl | rfl <;> exact ⟨rfl, rfl⟩
    simp only [hp]
    rcases (hR.recv ⟨h, h64⟩).2 rfl hE.nonempty with ⟨h1, _, h3⟩ | ⟨e, _, h2, h3, h4, h5⟩
    · exact .inl ⟨h3, h1⟩
    · exact .inr ⟨_, h4, .inr ⟨e, h2, rfl, hlong⟩, fun eof => (recvMsg_first sys d e eof h3 h2).trans (h5 eof)⟩

theorem recvFollow_shape (sys total : Nat) (buf : List α) (q : List (List α)) (eof : Bool) :
    (recvFollow sys total buf q eof).shape = recvFollowN sys total buf.length (q.map List.length) eof := by
  induction q generalizing buf with
  | nil => simp only [recvFollow, apply_ite RRes.shape]; rfl
  | cons p q ih =>
    simp only [recvFollow, apply_ite RRes.shape, ih, List.length_append]
    rfl

/-- the size-level receiver run by the driver is the shape of the data-level receiver of the theorems -/
theorem recvMsg_shape (sys : Nat) (p : FirstPkt α) (ded : List (List α)) (eof : Bool) :
    (recvMsg sys p ded eof).shape = recvMsgN sys p.total p.payload.length p.hasDed (ded.map List.length) eof := by
  simp only [recvMsg, apply_ite RRes.shape, recvFollow_shape]
  rfl

end Frag
