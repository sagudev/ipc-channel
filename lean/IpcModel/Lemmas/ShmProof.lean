import IpcModel.Shm
import IpcModel.Lemmas.ListLookup
/-! The shared-memory model's ownership/contents invariant over all histories.  Every operation that makes a handle installs
a descriptor at the fresh counter and calls `mapFile` (`openMap_spec`, over `mapFile_spec`); `mapFile_eq` is where zero and
non-zero lengths part for the kernel state, with the call log left open: `mapFile_calls` follows the log through the same split. -/
namespace Shm
open ListLookup

/-- handle `h`, created from `src`, is intact in kernel state `k` -/
def HOk (k : K) (h : Handle) (src : List Nat) : Prop :=
  h.length = src.length ∧ h.fd < k.next ∧
  ∃ o, k.fds h.fd = some o ∧ k.objs o = some src ∧
    (match h.ptr with
     | none => src = []
     | some a => src ≠ [] ∧ a < k.next ∧ k.maps a = some (o, src.length))

def Fresh (k : K) : Prop :=
  (∀ x, k.next ≤ x → k.fds x = none ∧ k.maps x = none) ∧ (∀ o, k.nobj ≤ o → k.objs o = none)

def Inv (w : W) : Prop :=
  Fresh w.k ∧
  (∀ (i : Nat) (h : Handle) (src : List Nat), w.hs[i]? = some (some (h, src)) → HOk w.k h src) ∧
  (∀ (i j : Nat) (hi : Handle) (si : List Nat) (hj : Handle) (sj : List Nat), i ≠ j →
      w.hs[i]? = some (some (hi, si)) → w.hs[j]? = some (some (hj, sj)) →
      hi.fd ≠ hj.fd ∧ ∀ a, hi.ptr = some a → hj.ptr ≠ some a) ∧
  (∀ o src, (o, src) ∈ w.flight → w.k.objs o = some src)

/-- `k'` extends `k`: identifiers below the old counters keep their meaning -/
def Ext (k k' : K) : Prop :=
  k.next ≤ k'.next ∧ (∀ x, x < k.next → k'.fds x = k.fds x ∧ k'.maps x = k.maps x) ∧
  (∀ o c, k.objs o = some c → k'.objs o = some c)

variable {k k' : K} {h h' : Handle} {src : List Nat}

theorem Fresh.fds (hf : Fresh k) {x : Nat} (hx : k.next ≤ x) : k.fds x = none := (hf.1 x hx).1
theorem Fresh.maps (hf : Fresh k) {x : Nat} (hx : k.next ≤ x) : k.maps x = none := (hf.1 x hx).2
theorem Fresh.objs (hf : Fresh k) {o : Nat} (ho : k.nobj ≤ o) : k.objs o = none := hf.2 o ho

theorem Ext.next_le (e : Ext k k') : k.next ≤ k'.next := e.1
theorem Ext.fds (e : Ext k k') {x : Nat} (hx : x < k.next) : k'.fds x = k.fds x := (e.2.1 x hx).1
theorem Ext.maps (e : Ext k k') {x : Nat} (hx : x < k.next) : k'.maps x = k.maps x := (e.2.1 x hx).2
theorem Ext.objs (e : Ext k k') {o : Nat} {c : List Nat} (hc : k.objs o = some c) : k'.objs o = some c := e.2.2 o c hc

theorem Inv.fresh {w : W} (hi : Inv w) : Fresh w.k := hi.1
theorem Inv.hok {w : W} {i : Nat} (hi : Inv w) (hg : w.hs[i]? = some (some (h, src))) : HOk w.k h src := hi.2.1 i h src hg
theorem Inv.apart {w : W} {i j : Nat} {s' : List Nat} (hi : Inv w) (hij : i ≠ j) (hgi : w.hs[i]? = some (some (h, src)))
    (hgj : w.hs[j]? = some (some (h', s'))) : h.fd ≠ h'.fd ∧ ∀ a, h.ptr = some a → h'.ptr ≠ some a :=
  hi.2.2.1 i j h src h' s' hij hgi hgj
theorem Inv.flight {w : W} {o : Nat} (hi : Inv w) (hm : (o, src) ∈ w.flight) : w.k.objs o = some src := hi.2.2.2 o src hm

theorem Ext.refl (k : K) : Ext k k := ⟨Nat.le_refl _, fun _ _ => ⟨rfl, rfl⟩, fun _ _ h => h⟩

theorem Ext.trans {a b c : K} (h1 : Ext a b) (h2 : Ext b c) : Ext a c :=
  ⟨Nat.le_trans h1.next_le h2.next_le,
   fun _ hx => have hx' := Nat.lt_of_lt_of_le hx h1.next_le
     ⟨(h2.fds hx').trans (h1.fds hx), (h2.maps hx').trans (h1.maps hx)⟩,
   fun _ _ hc => h2.objs (h1.objs hc)⟩

theorem HOk.frame (hk : HOk k h src) (hn : k.next ≤ k'.next) (hfds : k'.fds h.fd = k.fds h.fd)
    (hmaps : ∀ a, h.ptr = some a → k'.maps a = k.maps a) (hobjs : ∀ o c, k.objs o = some c → k'.objs o = some c) :
    HOk k' h src := by
  obtain ⟨hl, hfd, o, hf, ho, hp⟩ := hk
  refine ⟨hl, Nat.lt_of_lt_of_le hfd hn, o, hfds.trans hf, hobjs o src ho, ?_⟩
  cases hptr : h.ptr with
  | none => rwa [hptr] at hp
  | some a =>
    rw [hptr] at hp
    obtain ⟨hne, ha, hmap⟩ := hp
    exact ⟨hne, Nat.lt_of_lt_of_le ha hn, (hmaps a hptr).trans hmap⟩

theorem HOk.length_eq (hk : HOk k h src) : h.length = src.length := hk.1

theorem HOk.lt (hk : HOk k h src) : h.fd < k.next ∧ ∀ a, h.ptr = some a → a < k.next := by
  obtain ⟨_, hfd, o, _, _, hp⟩ := hk
  refine ⟨hfd, fun a ha => ?_⟩
  rw [ha] at hp; exact hp.2.1

theorem HOk.obj {o : Nat} (hk : HOk k h src) (ho : k.fds h.fd = some o) : k.objs o = some src := by
  obtain ⟨_, _, o', hfo, hobj, _⟩ := hk
  cases ho.symm.trans hfo; exact hobj

theorem HOk.ptr_cases (hk : HOk k h src) :
    h.ptr = none ∧ h.length = 0 ∨ ∃ a o, h.ptr = some a ∧ h.length ≠ 0 ∧ k.maps a = some (o, h.length) := by
  obtain ⟨hl, _, o, _, _, hp⟩ := hk
  rw [hl]
  generalize h.ptr = p at hp ⊢
  cases p with
  | none => exact .inl ⟨rfl, hp ▸ rfl⟩
  | some a => exact .inr ⟨a, o, rfl, fun e => hp.1 (List.length_eq_zero_iff.1 e), hp.2.2⟩

theorem HOk.ext (hk : HOk k h src) (e : Ext k k') : HOk k' h src :=
  hk.frame e.next_le (e.fds hk.lt.1) (fun a ha => e.maps (hk.lt.2 a ha)) fun _ _ => e.objs

theorem upd_same {β} (f : Nat → Option β) (a : Nat) (v : Option β) : upd f a v a = v := if_pos rfl
theorem upd_other {β} {f : Nat → Option β} {a x : Nat} {v : Option β} (h : x ≠ a) : upd f a v x = f x := if_neg h
theorem upd_none {β} {f : Nat → Option β} {x : Nat} (a : Nat) (h : f x = none) : upd f a none x = none := by
  unfold upd; split <;> trivial

/-! `upd` is used through these three lemmas only; sealed (like the kernel operations further down), unification does not
unfold what the proofs never look into. -/
attribute [local irreducible] upd

/-- what the operations that make a handle establish -/
structure New (k k' : K) (h' : Handle) (src : List Nat) : Prop where
  ext : Ext k k'
  fresh : Fresh k'
  hok : HOk k' h' src
  fd_ge : k.next ≤ h'.fd
  ptr_ge : ∀ a, h'.ptr = some a → k.next ≤ a

theorem New.apart {s : List Nat} (hn : New k k' h' src) (hk : HOk k h s) :
    h.fd ≠ h'.fd ∧ ∀ a, h.ptr = some a → h'.ptr ≠ some a :=
  ⟨Nat.ne_of_lt (Nat.lt_of_lt_of_le hk.lt.1 hn.fd_ge),
    fun a ha hb => Nat.lt_irrefl _ (Nat.lt_of_lt_of_le (hk.lt.2 a ha) (hn.ptr_ge a hb))⟩

theorem alloc_spec (hf : Fresh k) (fds : Nat → Option Nat) (maps : Nat → Option (Nat × Nat)) (cs : List Call)
    (hsame : ∀ x, x ≠ k.next → fds x = k.fds x ∧ maps x = k.maps x) :
    let k1 : K := { k with fds := fds, maps := maps, next := k.next + 1, calls := cs }
    Ext k k1 ∧ Fresh k1 := by
  refine ⟨⟨Nat.le_succ _, fun x hx => hsame x (Nat.ne_of_lt hx), fun _ _ h => h⟩, fun x hx => ?_, hf.2⟩
  have hx' := Nat.le_of_succ_le hx
  have hs := hsame x (Nat.ne_of_gt hx)
  exact ⟨hs.1.trans (hf.fds hx'), hs.2.trans (hf.maps hx')⟩

theorem newObj_spec (hf : Fresh k) (c : List Nat) :
    let k1 : K := { k with objs := upd k.objs k.nobj (some c), nobj := k.nobj + 1 }
    Ext k k1 ∧ Fresh k1 := by
  refine ⟨⟨Nat.le_refl _, fun _ _ => ⟨rfl, rfl⟩, fun o c' h => ?_⟩, hf.1, fun o ho => ?_⟩
  · refine (upd_other fun e => ?_).trans h
    rw [e, hf.objs (Nat.le_refl _)] at h; cases h
  · exact (upd_other (Nat.ne_of_gt ho)).trans (hf.objs (Nat.le_of_succ_le ho))

theorem mapFile_eq (k : K) (o : Nat) (len : Option Nat) :
    let n := len.getD ((k.objs o).getD []).length
    ∃ cs, mapFile k o len =
      if n = 0 then ({ k with calls := cs }, none, 0)
      else ({ k with maps := upd k.maps k.next (some (o, n)), next := k.next + 1, calls := cs }, some k.next, n) := by
  cases len <;> simp only [mapFile, Option.getD_some, Option.getD_none] <;> split <;> exact ⟨_, rfl⟩

/-- `hlen`: the object is mapped over its whole length, asked for or found by `fstat` -/
theorem mapFile_spec {fd o : Nat} {len : Option Nat} (hf : Fresh k) (hfd : fd < k.next) (hfo : k.fds fd = some o)
    (hobj : k.objs o = some src) (hlen : len.getD src.length = src.length) :
    ∃ k' p, mapFile k o len = (k', p, src.length) ∧ Ext k k' ∧ Fresh k' ∧ HOk k' ⟨p, src.length, fd⟩ src ∧
      ∀ a, p = some a → k.next ≤ a := by
  obtain ⟨cs, heq⟩ := mapFile_eq k o len
  simp only [hobj, Option.getD_some, hlen] at heq
  by_cases hz : src.length = 0
  · rw [if_pos hz] at heq
    exact ⟨{ k with calls := cs }, none, by rw [heq, hz], .refl k, hf, ⟨rfl, hfd, o, hfo, hobj, List.length_eq_zero_iff.mp hz⟩, nofun⟩
  · rw [if_neg hz] at heq
    obtain ⟨e1, f1⟩ := alloc_spec hf k.fds (upd k.maps k.next (some (o, src.length))) cs fun _ hx => ⟨rfl, upd_other hx⟩
    -- the handle: its descriptor as before, its mapping the new one
    exact ⟨_, _, heq, e1, f1, ⟨rfl, Nat.lt_succ_of_lt hfd, o, hfo, hobj, fun hs => hz (hs ▸ rfl), Nat.lt_succ_self _, upd_same ..⟩,
      fun a ha => Option.some.inj ha ▸ Nat.le_refl _⟩

theorem openMap_spec {k0 : K} {o : Nat} {len : Option Nat} (cs : List Call) (e : Ext k0 k) (hf : Fresh k)
    (hobj : k.objs o = some src) (hlen : len.getD src.length = src.length) :
    ∃ k' p, mapFile { k with fds := upd k.fds k.next (some o), next := k.next + 1, calls := cs } o len = (k', p, src.length) ∧
      k'.fds k.next = some o ∧ New k0 k' ⟨p, src.length, k.next⟩ src := by
  obtain ⟨e1, f1⟩ := alloc_spec hf (upd k.fds k.next (some o)) k.maps cs fun _ hx => ⟨upd_other hx, rfl⟩
  obtain ⟨k', p, heq, e2, f2, hok, hp⟩ := mapFile_spec f1 (Nat.lt_succ_self _) (upd_same ..) hobj hlen
  exact ⟨k', p, heq, (e2.fds (Nat.lt_succ_self _)).trans (upd_same ..),
    { ext := (e.trans e1).trans e2, fresh := f2, hok, fd_ge := e.next_le
      ptr_ge := fun a ha => Nat.le_trans e.next_le (Nat.le_of_succ_le (hp a ha)) }⟩

theorem fill_objs_none {o x : Nat} (bs : List Nat) (hx : k.objs x = none) : (fill k o bs).objs x = none := by
  show upd k.objs o _ x = none
  by_cases e : x = o
  · rw [← e, upd_same, hx]; rfl
  · rwa [upd_other e]

theorem fill_objs_self {o : Nat} {c bs : List Nat} (ho : k.objs o = some c) (hl : c.length ≤ bs.length) :
    (fill k o bs).objs o = some bs := by
  simp only [fill, upd_same, ho, Option.map_some, List.drop_eq_nil_of_le hl, List.append_nil]

/-- writing through the new mapping of an object that `k` did not have: the handle stems from what was written -/
theorem New.fill {p : Option Nat} {n fd o : Nat} {c bs : List Nat} (hn : New k k' ⟨p, n, fd⟩ c) (hfo : k'.fds fd = some o)
    (hno : k.objs o = none) (hl : bs.length = c.length) :
    New k (match (generalizing := false) p with | some _ => Shm.fill k' o bs | none => k') ⟨p, n, fd⟩ bs := by
  obtain ⟨hlen, hfd, o', hfo', hobj, hp⟩ := hn.hok
  obtain rfl : o = o' := Option.some.inj (hfo.symm.trans hfo')
  cases p with
  | none =>
    obtain rfl : bs = c := by rw [show c = [] from hp] at hl ⊢; exact List.length_eq_zero_iff.mp hl
    exact hn
  | some a =>
    obtain ⟨hne, ha, hmap⟩ := hp
    -- `fill` changes `objs` only, and there only object `o`, which `k` did not have
    have hext : Ext k (Shm.fill k' o bs) := ⟨hn.ext.next_le, fun _ hx => ⟨hn.ext.fds hx, hn.ext.maps hx⟩, fun x c' hx => by
      have hxo : x ≠ o := fun e => by rw [e, hno] at hx; cases hx
      exact (show (Shm.fill k' o bs).objs x = k'.objs x from upd_other hxo).trans (hn.ext.objs hx)⟩
    have hfresh : Fresh (Shm.fill k' o bs) := ⟨hn.fresh.1, fun x hx => fill_objs_none bs (hn.fresh.objs hx)⟩
    have hbs : bs ≠ [] := fun hb => hne (List.length_eq_zero_iff.mp (hl ▸ hb ▸ rfl))
    exact { ext := hext, fresh := hfresh, fd_ge := hn.fd_ge, ptr_ge := hn.ptr_ge
            hok := ⟨hlen.trans hl.symm, hfd, o, hfo, fill_objs_self hobj (Nat.le_of_eq hl.symm), hbs, ha, hl ▸ hmap⟩ }

theorem fromBytes_spec {bs : List Nat} (hf : Fresh k) (hsz : Gen.shmObjectSize bs.length = bs.length) :
    New k (fromBytes k bs).1 (fromBytes k bs).2 bs := by
  obtain ⟨e0, f0⟩ := newObj_spec hf (List.replicate bs.length 0)
  obtain ⟨k2, p, heq, hfo, hn⟩ := openMap_spec (len := some bs.length) (k.calls ++ [.create bs.length]) e0 f0 (upd_same ..)
    List.length_replicate.symm
  rw [List.length_replicate] at heq hn
  simp only [fromBytes, create, hsz, heq]
  exact hn.fill hfo (hf.objs (Nat.le_refl _)) List.length_replicate.symm

theorem clone_spec (hf : Fresh k) (hk : HOk k h src) : ∃ k' h', clone k h = some (k', h') ∧ New k k' h' src := by
  obtain ⟨hl, _, o, hfo, hobj, _⟩ := hk
  obtain ⟨k', p, heq, _, hn⟩ := openMap_spec (len := some src.length) (k.calls ++ [.dup]) (.refl k) hf hobj rfl
  exact ⟨k', _, by simp only [clone, hfo, Option.map_some, hl, heq], hn⟩

theorem recvObj_spec (hf : Fresh k) {o : Nat} (hobj : k.objs o = some src) : New k (recvObj k o).1 (recvObj k o).2 src := by
  obtain ⟨k', p, heq, _, hn⟩ := openMap_spec (len := none) k.calls (.refl k) hf hobj rfl
  simp only [recvObj, heq]; exact hn

theorem dropH_fresh (h : Handle) (hf : Fresh k) : Fresh (dropH k h) := by
  unfold dropH
  cases h.ptr with
  | none => exact ⟨fun x hx => ⟨upd_none _ (hf.fds hx), hf.maps hx⟩, hf.2⟩
  | some a => exact ⟨fun x hx => ⟨upd_none _ (hf.fds hx), upd_none _ (hf.maps hx)⟩, hf.2⟩

theorem dropH_next (k : K) (h : Handle) : (dropH k h).next = k.next := by
  unfold dropH; cases h.ptr <;> rfl

theorem dropH_objs (k : K) (h : Handle) : (dropH k h).objs = k.objs := by
  unfold dropH; cases h.ptr <;> rfl

theorem dropH_other (hk : HOk k h' src) (hfd : h.fd ≠ h'.fd) (hptr : ∀ a, h.ptr = some a → h'.ptr ≠ some a) :
    HOk (dropH k h) h' src := by
  refine hk.frame (Nat.le_of_eq (dropH_next k h).symm) ?_ (fun a' ha' => ?_) (fun _ _ => (dropH_objs k h).symm ▸ id) <;>
    unfold dropH
  · cases h.ptr <;> exact upd_other (Ne.symm hfd)
  · cases hp : h.ptr with
    | none => rfl
    | some a => exact upd_other fun e => hptr a hp (e ▸ ha')

theorem deref_ok (hk : HOk k h src) : deref k h = .bytes src := by
  obtain ⟨hl, _, o, _, hobj, hp⟩ := hk
  unfold deref
  cases hptr : h.ptr with
  | none => rw [hptr] at hp; rw [hp]
  | some a =>
    rw [hptr] at hp
    obtain ⟨-, -, hmap⟩ := hp
    simp only [hmap, hobj, hl, Nat.le_refl, and_self, if_true, List.take_length]

/-! zero-length regions never reach `mmap` / `munmap` -/
def CallsOk (cs : List Call) : Prop := ∀ c ∈ cs, c ≠ Call.mmap 0 ∧ c ≠ Call.munmap 0

theorem CallsOk.append {a b : List Call} (ha : CallsOk a) (hb : CallsOk b) : CallsOk (a ++ b) :=
  fun c hc => (List.mem_append.mp hc).elim (ha c) (hb c)

theorem CallsOk.nil : CallsOk [] := fun _ h => nomatch h

theorem CallsOk.cons {c : Call} {cs : List Call} (hc : c ≠ .mmap 0 ∧ c ≠ .munmap 0) (h : CallsOk cs) : CallsOk (c :: cs) :=
  fun x hx => (List.mem_cons.mp hx).elim (· ▸ hc) (h x)

theorem mapFile_calls (k : K) (o : Nat) (l : Option Nat) (h : CallsOk k.calls) : CallsOk (mapFile k o l).1.calls := by
  cases l <;> simp only [mapFile] <;> split
  · exact h.append (.cons ⟨nofun, nofun⟩ .nil)
  · exact h.append (.cons ⟨nofun, nofun⟩ (.cons ⟨fun e => ‹¬_› (Call.mmap.inj e), nofun⟩ .nil))
  · exact h
  · exact h.append (.cons ⟨fun e => ‹¬_› (Call.mmap.inj e), nofun⟩ .nil)

theorem fromBytes_calls {bs : List Nat} (h : CallsOk k.calls) : CallsOk (fromBytes k bs).1.calls := by
  have h2 := mapFile_calls (create k bs.length).1 (create k bs.length).2.2 (some bs.length) (h.append (.cons ⟨nofun, nofun⟩ .nil))
  simp only [fromBytes]
  split <;> exact h2

theorem recvObj_calls {o : Nat} (h : CallsOk k.calls) : CallsOk (recvObj k o).1.calls :=
  mapFile_calls { k with fds := upd k.fds k.next (some o), next := k.next + 1 } o none h

theorem clone_calls {r : K × Handle} (hc : clone k h = some r) (hk : CallsOk k.calls) : CallsOk r.1.calls := by
  simp only [clone, Option.map_eq_some_iff] at hc
  obtain ⟨o, _, rfl⟩ := hc
  exact mapFile_calls _ o _ (hk.append (.cons ⟨nofun, nofun⟩ .nil))

/-- `Drop` of an intact handle: it is mapped only if its length is not zero -/
theorem dropH_calls (hk : HOk k h src) (hc : CallsOk k.calls) : CallsOk (dropH k h).calls := by
  unfold dropH
  rcases hk.ptr_cases with ⟨hp, _⟩ | ⟨a, _, hp, hne, _⟩ <;> rw [hp]
  · exact hc.append (.cons ⟨nofun, nofun⟩ .nil)
  · exact .append (.append hc (.cons ⟨nofun, fun e => hne (Call.munmap.inj e)⟩ .nil)) (.cons ⟨nofun, nofun⟩ .nil)

/-! The histories below use the kernel operations through the lemmas above only. -/
attribute [local irreducible] fromBytes clone recvObj dropH mapFile

/-- the worlds an operation can lead to from `w`, with the facts that select them (`same`: the operation names a dropped
or missing handle, nothing is in flight, or the kernel call fails) -/
inductive Step (w : W) : Op → W → Prop
  | same (op : Op) : Step w op w
  | make (bs : List Nat) : Step w (.fromBytes bs) ⟨(fromBytes w.k bs).1, w.hs ++ [some ((fromBytes w.k bs).2, bs)], w.flight⟩
  | makeB (b n : Nat) : Step w (.fromByte b n)
      ⟨(fromBytes w.k (List.replicate n b)).1, w.hs ++ [some ((fromBytes w.k (List.replicate n b)).2, List.replicate n b)], w.flight⟩
  | clone {i : Nat} {h h' : Handle} {src : List Nat} {k' : K} (hg : w.hs[i]? = some (some (h, src)))
      (hc : Shm.clone w.k h = some (k', h')) : Step w (.clone i) ⟨k', w.hs ++ [some (h', src)], w.flight⟩
  | recvCopy {i o : Nat} {h : Handle} {src : List Nat} (hg : w.hs[i]? = some (some (h, src))) (ho : w.k.fds h.fd = some o) :
      Step w (.recvCopy i) ⟨(recvObj w.k o).1, w.hs ++ [some ((recvObj w.k o).2, src)], w.flight⟩
  | drop {i : Nat} {h : Handle} {src : List Nat} (hg : w.hs[i]? = some (some (h, src))) :
      Step w (.drop i) ⟨dropH w.k h, w.hs.set i none, w.flight⟩
  | flight {i o : Nat} {h : Handle} {src : List Nat} (hg : w.hs[i]? = some (some (h, src))) (ho : w.k.fds h.fd = some o) :
      Step w (.flight i) { w with flight := w.flight ++ [(o, src)] }
  | recv {o : Nat} {src : List Nat} {rest : List (Nat × List Nat)} (hfl : w.flight = (o, src) :: rest) :
      Step w .recvFlight ⟨(recvObj w.k o).1, w.hs ++ [some ((recvObj w.k o).2, src)], rest⟩

theorem step_spec (w : W) (op : Op) : Step w op (step w op) := by
  cases op <;> simp only [step]
  case fromBytes bs => exact .make bs
  case fromByte b n => exact .makeB b n
  case recvFlight =>
    split
    · exact .recv ‹_›
    · exact .same _
  case drop i =>
    split
    · exact .drop ‹_›
    · exact .same _
  case clone i =>
    split
    · split
      · exact .clone ‹_› ‹_›
      · exact .same _
    · exact .same _
  case recvCopy i =>
    split
    · unfold Shm.recvCopy
      cases ho : w.k.fds _ with
      | none => exact .same _
      | some o => exact .recvCopy ‹_› ho
    · exact .same _
  case flight i =>
    split
    · split
      · exact .flight ‹_› ‹_›
      · exact .same _
    · exact .same _

theorem Step.keeps {w w' : W} {op : Op} {j : Nat} {x : Handle × List Nat} (hs : Step w op w')
    (hl : w.hs[j]? = some (some x)) (hop : op ≠ .drop j) : w'.hs[j]? = some (some x) := by
  cases hs with
  | same | flight => exact hl
  | make | makeB | clone | recvCopy | recv => exact get_append_left hl _
  | drop => rw [List.getElem?_set_ne fun e => hop (congrArg Op.drop e)]; exact hl

theorem inv_push {w : W} {fl : List (Nat × List Nat)} (hi : Inv w) (hn : New w.k k' h' src) (hfl : ∀ x ∈ fl, x ∈ w.flight) :
    Inv ⟨k', w.hs ++ [some (h', src)], fl⟩ := by
  refine ⟨hn.fresh, fun i h s hget => ?_, fun i j hi' si hj sj hij hgi hgj => ?_, fun o s hm => hn.ext.objs (hi.flight (hfl _ hm))⟩
  · rcases get_concat.mp hget with hg | ⟨_, hy⟩
    · exact (hi.hok hg).ext hn.ext
    · cases hy; exact hn.hok
  · rcases get_concat.mp hgi with hg1 | ⟨hie, hy1⟩ <;> rcases get_concat.mp hgj with hg2 | ⟨hje, hy2⟩
    · exact hi.apart hij hg1 hg2
    · cases hy2; exact hn.apart (hi.hok hg1)
    · cases hy1
      have d := hn.apart (hi.hok hg2)
      exact ⟨d.1.symm, fun a ha hb => d.2 a hb ha⟩
    · exact absurd (hie.trans hje.symm) hij

theorem inv_drop {w : W} {i : Nat} (hi : Inv w) (hg : w.hs[i]? = some (some (h, src))) :
    Inv ⟨dropH w.k h, w.hs.set i none, w.flight⟩ := by
  refine ⟨dropH_fresh _ hi.fresh, fun j h' s' hget => ?_, fun a b ha sa hb sb hab hga hgb => ?_, fun o s hm => ?_⟩
  · obtain ⟨hji, hget⟩ := get_set_of_ne hget nofun
    have d := hi.apart (Ne.symm hji) hg hget
    exact dropH_other (hi.hok hget) d.1 d.2
  · exact hi.apart hab (get_set_of_ne hga nofun).2 (get_set_of_ne hgb nofun).2
  · rw [dropH_objs]; exact hi.flight hm

theorem inv_flight {w : W} {o : Nat} (hi : Inv w) (hobj : w.k.objs o = some src) :
    Inv { w with flight := w.flight ++ [(o, src)] } := by
  obtain ⟨hfresh, hok, hapart, hflight⟩ := hi
  refine ⟨hfresh, hok, hapart, fun o' s' hm => ?_⟩
  rcases List.mem_append.mp hm with h1 | h1
  · exact hflight o' s' h1
  · cases List.mem_singleton.mp h1; exact hobj

theorem Step.inv {w w' : W} {op : Op} (hs : Step w op w') (hsz : ∀ n, Gen.shmObjectSize n = n) (hi : Inv w) : Inv w' := by
  cases hs with
  | same => exact hi
  | make | makeB => exact inv_push hi (fromBytes_spec hi.fresh (hsz _)) (fun _ => id)
  | clone hg hc =>
    obtain ⟨k', h', hc', hn⟩ := clone_spec hi.fresh (hi.hok hg)
    cases hc.symm.trans hc'; exact inv_push hi hn (fun _ => id)
  | recvCopy hg ho => exact inv_push hi (recvObj_spec hi.fresh ((hi.hok hg).obj ho)) (fun _ => id)
  | drop hg => exact inv_drop hi hg
  | flight hg ho => exact inv_flight hi ((hi.hok hg).obj ho)
  | recv hfl =>
    exact inv_push hi (recvObj_spec hi.fresh (hi.flight (hfl ▸ List.mem_cons_self))) (fun x hx => hfl ▸ List.mem_cons_of_mem _ hx)

theorem inv_step (w : W) (op : Op) (hsz : ∀ n, Gen.shmObjectSize n = n) (hi : Inv w) : Inv (step w op) :=
  (step_spec w op).inv hsz hi

theorem inv_init : Inv W.init :=
  ⟨⟨fun _ _ => ⟨rfl, rfl⟩, fun _ _ => rfl⟩, nofun, nofun, nofun⟩

theorem inv_run (ops : List Op) (hsz : ∀ n, Gen.shmObjectSize n = n) : Inv (run ops) :=
  List.foldlRecOn ops step inv_init fun w h op _ => inv_step w op hsz h

theorem Step.calls {w w' : W} {op : Op} (hs : Step w op w') (hi : Inv w) (hc : CallsOk w.k.calls) : CallsOk w'.k.calls := by
  cases hs with
  | same => exact hc
  | make | makeB => exact fromBytes_calls hc
  | clone _ h => exact clone_calls h hc
  | drop hg => exact dropH_calls (hi.hok hg) hc
  | flight => exact hc
  | recvCopy | recv => exact recvObj_calls hc

theorem calls_step (w : W) (op : Op) (hi : Inv w) (hc : CallsOk w.k.calls) : CallsOk (step w op).k.calls :=
  (step_spec w op).calls hi hc

theorem calls_run (ops : List Op) (hsz : ∀ n, Gen.shmObjectSize n = n) : CallsOk (run ops).k.calls :=
  (List.foldlRecOn ops step (motive := fun w => Inv w ∧ CallsOk w.k.calls) ⟨inv_init, .nil⟩ fun w h op _ =>
    ⟨inv_step w op hsz h.1, calls_step w op h.1 h.2⟩).2

end Shm
