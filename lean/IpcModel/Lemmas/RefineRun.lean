import IpcModel.Lemmas.RefineSteps
namespace Refine
open Ideal (Op Res Msg)
open ListLookup

theorem rel_init : Rel ⟨[]⟩ ⟨[]⟩ := by
  have hA : Agree (fun _ => False) ⟨[]⟩ ⟨[]⟩ :=
    { len := rfl
      fields := fun _ _ _ h => by cases h
      live := fun _ _ _ h => h.elim }
  have hO : Own (fun _ => False) [] ⟨[]⟩ :=
    { uniq := fun x => by simp [trc, heldN, Unix.rootB, rc]
      bound := fun _ _ => rfl
      root := fun _ h => by cases h
      edge := fun _ _ h => h.elim
      pend := nofun }
  exact hA.rel hO

def Sim (x : Unix.St × Res) (y : Ideal.St × Res) : Prop := x.2 = y.2 ∧ Rel x.1 y.1

theorem Sim.of_rel {u : Unix.St} {i : Ideal.St} {r : Res} (h : Rel u i) : Sim (u, r) (i, r) := ⟨rfl, h⟩

theorem Sim.ite {p q : Prop} [Decidable p] [Decidable q] {a b : Unix.St × Res} {a' b' : Ideal.St × Res} (hpq : p ↔ q)
    (ha : p → Sim a a') (hb : ¬ p → Sim b b') : Sim (if p then a else b) (if q then a' else b') := by
  by_cases hp : p
  · rw [if_pos hp, if_pos (hpq.mp hp)]; exact ha hp
  · rw [if_neg hp, if_neg (mt hpq.mpr hp)]; exact hb hp

/-- Validity is used by `send` alone: that each embedded receiver is held gives `rel_kill` its `hheld` (rejected send) and puts
what `Own.unhold` takes in hand into `S` (accepted send); that it is named once is needed only for `Own.unhold`'s count.  Whether
the receiver of `c` exists only selects the branch, the same on both sides (`alive_eq`); the accepted branch does not use it. -/
theorem sim_step (u : Unix.St) (i : Ideal.St) (hR : Rel u i) (op : Op) (hv : Unix.validOp u op = true) :
    Sim (Unix.step u op) (Ideal.step i op) := by
  unfold Unix.step Ideal.step
  have hA := hR.agree
  have hO := hR.inv.own
  cases op with
  | newChan => exact .of_rel (hA.newChan.rel hO.newChan)
  | cloneSender c | dropSender c =>
    rcases get_both hR.len c with ⟨h1, h2⟩ | ⟨uc, ic, h1, h2⟩ <;> simp only [h1, h2]
    · exact .of_rel hR
    · exact .ite (by rw [(hR.fields c uc ic h1 h2).1]) (fun _ => .of_rel hR)
        fun _ => .of_rel ((hA.senders c fun _ _ h => by rw [h]).rel (hO.senders c _))
  | send c tag hs =>
    rcases get_both hR.len c with ⟨h1, h2⟩ | ⟨uc, ic, h1, h2⟩ <;> simp only [h1, h2]
    · exact .of_rel hR
    · refine .ite (by rw [(hR.fields c uc ic h1 h2).1]) (fun _ => .of_rel hR) fun _ => ?_
      refine .ite (by rw [alive_eq hR c]) (fun _ => ?_) fun _ => .of_rel (rel_send_fail hR hv)
      have hc : (Unix.unhold u hs).chans[c]? = (some uc).map _ := h1 ▸ Unix.unhold_get u hs c
      have hA' := (hA.unhold hs).requeue c (· ++ [⟨tag, hs⟩])
      have hO' := (hO.unhold (valid_send hv)).enqueue (m := ⟨tag, hs⟩) hc
      exact .of_rel (hA'.rel hO')
  | recv c =>
    rcases get_both hR.len c with ⟨h1, h2⟩ | ⟨uc, ic, h1, h2⟩ <;> simp only [h1, h2]
    · exact .of_rel hR
    · refine .ite (by simp [← (hR.fields c uc ic h1 h2).2]) (fun _ => .of_rel hR) fun hheld => ?_
      have hheld : uc.held = true := by simpa using hheld
      have hc : RU u c := ru_root ((rootU_iff u c).mpr ⟨uc, h1, hheld⟩)
      rw [← hR.queues c uc ic hc h1 h2]
      cases hqc : uc.queue with
      | nil => exact .ite (by rw [senderOpen_eq hR c]) (fun _ => .of_rel hR) fun _ => .of_rel hR
      | cons m q =>
        have hA' := (hA.requeue c fun _ => q).install m.handles
        have hO' := (hO.dequeue hc h1 hqc).install
        exact .of_rel (hA'.rel hO')
  | dropReceiver c =>
    rcases get_both hR.len c with ⟨h1, h2⟩ | ⟨uc, ic, h1, h2⟩ <;> simp only [h1, h2]
    · exact .of_rel hR
    · refine .ite (by simp [← (hR.fields c uc ic h1 h2).2]) (fun _ => .of_rel hR) fun hheld => ?_
      exact .of_rel (rel_dropReceiver hR h1 h2 (by simpa using hheld))

theorem sim_run (ops : List Op) {u : Unix.St} {i : Ideal.St} (acc : List Res) (hR : Rel u i) (hv : Unix.validFrom u ops = true) :
    (ops.foldl (fun (a : Unix.St × List Res) op => let r := Unix.step a.1 op; (r.1, a.2 ++ [r.2])) (u, acc)).2 =
    (ops.foldl (fun (a : Ideal.St × List Res) op => let r := Ideal.step a.1 op; (r.1, a.2 ++ [r.2])) (i, acc)).2 := by
  induction ops generalizing u i acc with
  | nil => rfl
  | cons op ops ih =>
    simp only [Unix.validFrom, Bool.and_eq_true] at hv
    obtain ⟨h1, h2⟩ := sim_step u i hR op hv.1
    simp only [List.foldl_cons, h1]
    exact ih _ h2 hv.2

/-- **`Unix ⊑ Ideal`** — every valid program (it embeds only receivers it holds, each once) gets the same result for every
operation from the descriptor-level reading and from the specification, whatever it sends inside what, drops or leaves
queued, and however the handles travel. -/
theorem refine_run (ops : List Op) (hv : Unix.valid ops = true) : (Unix.run ops).2 = (Ideal.run ops).2 :=
  sim_run ops [] rel_init hv

/-- so the theorems about `Ideal` states transfer to what exists at descriptor level -/
theorem refine_states (ops : List Op) {u : Unix.St} {i : Ideal.St} (hR : Rel u i) (hv : Unix.validFrom u ops = true) :
    Rel (ops.foldl (fun s op => (Unix.step s op).1) u) (ops.foldl (fun s op => (Ideal.step s op).1) i) := by
  induction ops generalizing u i with
  | nil => exact hR
  | cons op ops ih =>
    simp only [Unix.validFrom, Bool.and_eq_true] at hv
    exact ih (sim_step u i hR op hv.1).2 hv.2

end Refine
