import IpcModel.Unix
import IpcModel.Lemmas.ReachProof
import IpcModel.Lemmas.IdealProof
import IpcModel.Lemmas.ListLookup
/-! What the refinement proof needs of each model before the two are related: the reachability sets read inductively, and for
`Unix` the count of receiver handles in queues, their uniqueness (`UInv`) and its form for the middle of an operation (`Own`),
which each primitive transformer keeps. -/
namespace Unix
open Ideal (Handle)

theorem modify_get (st : St) (c : Nat) (f : Chan → Chan) (d : Nat) :
    (modify st c f).chans[d]? = (st.chans[d]?).map fun ch => if c = d then f ch else ch := by
  simp only [modify, List.getElem?_modify, Option.map_eq_map]

theorem modify_len (st : St) (c : Nat) (f : Chan → Chan) : (modify st c f).chans.length = st.chans.length :=
  List.length_modify ..

theorem unhold_get (st : St) (hs : List Handle) (d : Nat) :
    (unhold st hs).chans[d]? = (st.chans[d]?).map fun ch => if hs.contains (.rcv d) then { ch with held := false } else ch :=
  List.getElem?_mapIdx

theorem install_get (st : St) (hs : List Handle) (d : Nat) :
    (install st hs).chans[d]? = (st.chans[d]?).map fun ch =>
      { ch with held := ch.held || hs.contains (.rcv d), senders := ch.senders + hs.count (.snd d) } :=
  List.getElem?_mapIdx

theorem unhold_len (st : St) (hs : List Handle) : (unhold st hs).chans.length = st.chans.length := List.length_mapIdx
theorem install_len (st : St) (hs : List Handle) : (install st hs).chans.length = st.chans.length := List.length_mapIdx

end Unix

namespace Refine
open Ideal (Handle Msg)

/-- receiving ends that exist, specification -/
abbrev RI (i : Ideal.St) : Nat → Prop := Reach.ReachG i.chans.length (Ideal.rootB i) (Ideal.edgeB i)
/-- receiving sockets that exist, descriptor level -/
abbrev RU (u : Unix.St) : Nat → Prop := Reach.ReachG u.chans.length (Unix.rootB u) (Unix.carriesRcv u)

theorem mem_rxAlive (i : Ideal.St) (c : Nat) : c ∈ Ideal.rxAlive i ↔ RI i c := Reach.reachG_iff c
theorem mem_alive (u : Unix.St) (c : Nat) : c ∈ Unix.alive u ↔ RU u c := Reach.reachG_iff c

theorem rootI_iff (i : Ideal.St) (c : Nat) : Ideal.rootB i c = true ↔ ∃ ic, i.chans[c]? = some ic ∧ ic.rx = .held := by
  unfold Ideal.rootB; cases i.chans[c]? <;> simp

theorem carriesI_iff (i : Ideal.St) (d c : Nat) :
    Ideal.carriesRcv i d c = true ↔ ∃ id m, i.chans[d]? = some id ∧ m ∈ id.queue ∧ Handle.rcv c ∈ m.handles := by
  unfold Ideal.carriesRcv; cases i.chans[d]? <;> simp

theorem edgeI_iff (i : Ideal.St) (d c : Nat) :
    Ideal.edgeB i d c = true ↔ (∃ ic, i.chans[c]? = some ic ∧ ic.rx = .inMsg) ∧ Ideal.carriesRcv i d c = true := by
  unfold Ideal.edgeB; cases i.chans[c]? <;> simp

theorem ri_not_dropped {i : Ideal.St} {c : Nat} (h : RI i c) {ic : Ideal.Chan} (hc : i.chans[c]? = some ic) : ic.rx ≠ .dropped := by
  intro hd
  cases h with
  | root _ _ hr => simp [Ideal.rootB, hc, hd] at hr
  | edge d _ _ _ he => simp [Ideal.edgeB, hc, hd] at he

theorem rootU_iff (u : Unix.St) (c : Nat) : Unix.rootB u c = true ↔ ∃ uc, u.chans[c]? = some uc ∧ uc.held = true := by
  unfold Unix.rootB; cases u.chans[c]? <;> simp

theorem carriesU_iff (u : Unix.St) (d c : Nat) :
    Unix.carriesRcv u d c = true ↔ ∃ ud m, u.chans[d]? = some ud ∧ m ∈ ud.queue ∧ Handle.rcv c ∈ m.handles := by
  unfold Unix.carriesRcv; cases u.chans[d]? <;> simp

theorem rootB_false_of_none {u : Unix.St} {x : Nat} (h : u.chans[x]? = none) : Unix.rootB u x = false := by
  unfold Unix.rootB; rw [h]

theorem ru_root {u : Unix.St} {x : Nat} (h : Unix.rootB u x = true) : RU u x := by
  obtain ⟨uc, h1, _⟩ := (rootU_iff u x).mp h
  exact .root x (ListLookup.lt_of_get h1) h

/-- occurrences of the receiver of channel `x` among the handles of one message -/
def rc (hs : List Handle) (x : Nat) : Nat := hs.count (.rcv x)
/-- … in the messages of one queue -/
def qrc (q : List Msg) (x : Nat) : Nat := (q.map fun m => rc m.handles x).sum
/-- … in all queues -/
def trc (chs : List Unix.Chan) (x : Nat) : Nat := (chs.map fun ch => qrc ch.queue x).sum

theorem qrc_nil (x : Nat) : qrc [] x = 0 := rfl
theorem qrc_append (q r : List Msg) (x : Nat) : qrc (q ++ r) x = qrc q x + qrc r x := by simp [qrc]
theorem qrc_cons (m : Msg) (q : List Msg) (x : Nat) : qrc (m :: q) x = rc m.handles x + qrc q x := by simp [qrc]

theorem trc_append (a b : List Unix.Chan) (x : Nat) : trc (a ++ b) x = trc a x + trc b x := by simp [trc]

theorem trc_cons (a : Unix.Chan) (t : List Unix.Chan) (x : Nat) : trc (a :: t) x = qrc a.queue x + trc t x := rfl

theorem trc_modify (chs : List Unix.Chan) (c : Nat) (ch : Unix.Chan) (f : Unix.Chan → Unix.Chan) (x : Nat) (h : chs[c]? = some ch) :
    trc (chs.modify c f) x + qrc ch.queue x = trc chs x + qrc (f ch).queue x := by
  induction chs generalizing c with
  | nil => cases h
  | cons a t ih =>
    cases c with
    | zero =>
      cases h
      rw [List.modify_zero_cons, trc_cons, trc_cons]
      omega
    | succ c =>
      have := ih c h
      rw [List.modify_succ_cons, trc_cons, trc_cons]
      omega

theorem qrc_le_trc (chs : List Unix.Chan) (c : Nat) (ch : Unix.Chan) (x : Nat) (h : chs[c]? = some ch) : qrc ch.queue x ≤ trc chs x := by
  have : trc (chs.modify c fun ch => { ch with queue := [] }) x + qrc ch.queue x = trc chs x := trc_modify chs c ch _ x h
  omega

theorem rc_pos_of_mem {hs : List Handle} {x : Nat} (h : Handle.rcv x ∈ hs) : 0 < rc hs x :=
  List.count_pos_iff.mpr h

theorem qrc_pos_iff {q : List Msg} {x : Nat} : 0 < qrc q x ↔ ∃ m, m ∈ q ∧ Handle.rcv x ∈ m.handles := by
  rw [qrc, List.sum_pos_iff_exists_pos_nat]
  constructor
  · rintro ⟨n, hn, hpos⟩
    obtain ⟨m, hm, rfl⟩ := List.mem_map.mp hn
    exact ⟨m, hm, List.count_pos_iff.mp hpos⟩
  · rintro ⟨m, hm, h⟩
    exact ⟨_, List.mem_map_of_mem hm, rc_pos_of_mem h⟩

theorem mem_of_qrc_pos {q : List Msg} {x : Nat} (h : 0 < qrc q x) : ∃ m, m ∈ q ∧ Handle.rcv x ∈ m.handles :=
  qrc_pos_iff.mp h

/-! A transformer is known by what it does to each channel, `u'.chans[d]? = (u.chans[d]?).map (f d)`. -/

theorem root_map {u u' : Unix.St} {f : Nat → Unix.Chan → Unix.Chan} (h : ∀ d, u'.chans[d]? = (u.chans[d]?).map (f d)) (x : Nat) :
    Unix.rootB u' x = true ↔ ∃ uc, u.chans[x]? = some uc ∧ (f x uc).held = true := by
  rw [rootU_iff, h]; cases u.chans[x]? <;> simp

theorem carries_map {u u' : Unix.St} {f : Nat → Unix.Chan → Unix.Chan} (h : ∀ d, u'.chans[d]? = (u.chans[d]?).map (f d)) (d x : Nat) :
    Unix.carriesRcv u' d x = true ↔ ∃ ud m, u.chans[d]? = some ud ∧ m ∈ (f d ud).queue ∧ Handle.rcv x ∈ m.handles := by
  rw [carriesU_iff, h]; cases u.chans[d]? <;> simp

theorem root_keep {u u' : Unix.St} {f : Nat → Unix.Chan → Unix.Chan} (h : ∀ d, u'.chans[d]? = (u.chans[d]?).map (f d))
    (hh : ∀ d ch, (f d ch).held = ch.held) (x : Nat) : Unix.rootB u' x = Unix.rootB u x := by
  unfold Unix.rootB; rw [h x]; cases u.chans[x]? <;> simp [hh]

theorem carries_keep {u u' : Unix.St} {f : Nat → Unix.Chan → Unix.Chan} (h : ∀ d, u'.chans[d]? = (u.chans[d]?).map (f d))
    (hq : ∀ d ch, (f d ch).queue = ch.queue) (d x : Nat) : Unix.carriesRcv u' d x = Unix.carriesRcv u d x := by
  unfold Unix.carriesRcv; rw [h d]; cases u.chans[d]? <;> simp [hq]

theorem trc_keep {u u' : Unix.St} {f : Nat → Unix.Chan → Unix.Chan} (h : ∀ d, u'.chans[d]? = (u.chans[d]?).map (f d))
    (hq : ∀ d ch, (f d ch).queue = ch.queue) (x : Nat) : trc u'.chans x = trc u.chans x := by
  -- the count depends on the list of queues only, and that list is the same
  have e : ∀ l : List Unix.Chan, trc l x = ((l.map (·.queue)).map (qrc · x)).sum := fun l => by simp [trc, Function.comp_def]
  have hqs : u'.chans.map (·.queue) = u.chans.map (·.queue) := List.ext_getElem? fun d => by
    rw [List.getElem?_map, List.getElem?_map, h d]
    cases u.chans[d]? <;> simp [hq]
  rw [e, e, hqs]

/-- in channel-wise form and both ways, because `rel_kill` knows its `u'` only so (with `wl` not necessarily valid) -/
theorem root_unhold {u u' : Unix.St} {wl : List Handle}
    (h : ∀ d, u'.chans[d]? = (u.chans[d]?).map fun ch => if wl.contains (.rcv d) then { ch with held := false } else ch) (x : Nat) :
    Unix.rootB u' x = true ↔ Unix.rootB u x = true ∧ ¬ Handle.rcv x ∈ wl := by
  rw [root_map h, rootU_iff]
  by_cases hw : Handle.rcv x ∈ wl <;> simp [hw]

theorem root_install {u : Unix.St} {hs : List Handle} {x : Nat} (h : Unix.rootB (Unix.install u hs) x = true) :
    Unix.rootB u x = true ∨ Handle.rcv x ∈ hs := by
  rw [root_map (Unix.install_get u hs)] at h
  rw [rootU_iff]
  obtain ⟨uc, h1, h2⟩ := h
  simp only [Bool.or_eq_true, List.contains_iff_mem] at h2
  exact h2.imp (fun hh => ⟨uc, h1, hh⟩) id

/-- the program's own handles on the receiver of channel `x` -/
def heldN (u : Unix.St) (x : Nat) : Nat := if Unix.rootB u x = true then 1 else 0

/-- receiver handles are unique: each is held by the program or sits once in one queued packet, not both.  `bound`: no packet names
a channel that was never created, so `ru_edge` can call whatever is carried reachable. -/
structure UInv (u : Unix.St) : Prop where
  uniq : ∀ x, trc u.chans x + heldN u x ≤ 1
  bound : ∀ x, u.chans.length ≤ x → trc u.chans x = 0

theorem heldN_le_one (u : Unix.St) (x : Nat) : heldN u x ≤ 1 := by unfold heldN; split <;> omega

theorem heldN_mono {u u' : Unix.St} {x : Nat} (h : Unix.rootB u' x = true → Unix.rootB u x = true) : heldN u' x ≤ heldN u x := by
  unfold heldN
  by_cases h' : Unix.rootB u' x = true
  · simp [h', h h']
  · simp [h']

theorem trc_pos_of_carries {u : Unix.St} {d x : Nat} (h : Unix.carriesRcv u d x = true) : 0 < trc u.chans x := by
  obtain ⟨ud, m, h1, h2, h3⟩ := (carriesU_iff u d x).mp h
  have := qrc_pos_iff.mpr ⟨m, h2, h3⟩
  have := qrc_le_trc u.chans d ud x h1
  omega

theorem held_not_carried {u : Unix.St} (hI : UInv u) {d x : Nat} (hr : Unix.rootB u x = true) : ¬ Unix.carriesRcv u d x = true := by
  intro h
  have h1 := trc_pos_of_carries h
  have h2 := hI.uniq x
  rw [heldN, if_pos hr] at h2
  omega

theorem carried_unique {u : Unix.St} (hI : UInv u) {d e x : Nat} (h1 : Unix.carriesRcv u d x = true) (h2 : Unix.carriesRcv u e x = true) : d = e := by
  refine Decidable.by_contra fun hde => ?_
  obtain ⟨ud, m, a1, a2, a3⟩ := (carriesU_iff u d x).mp h1
  obtain ⟨ue, m', b1, b2, b3⟩ := (carriesU_iff u e x).mp h2
  have p1 := qrc_pos_iff.mpr ⟨m, a2, a3⟩
  have p2 := qrc_pos_iff.mpr ⟨m', b2, b3⟩
  -- with the queue of `d` emptied, that of `e` is still counted
  have : trc (u.chans.modify d fun ch => { ch with queue := [] }) x + qrc ud.queue x = trc u.chans x := trc_modify u.chans d ud _ x a1
  have := qrc_le_trc (u.chans.modify d fun ch => { ch with queue := [] }) e ue x (by rw [List.getElem?_modify, b1]; simp [hde])
  have := hI.uniq x
  omega

theorem ru_edge {u : Unix.St} (hI : UInv u) {d x : Nat} (hd : RU u d) (h : Unix.carriesRcv u d x = true) : RU u x := by
  refine .edge d x (Nat.lt_of_not_le fun hl => ?_) hd h
  have := hI.bound x hl
  have := trc_pos_of_carries h
  omega

/-- `UInv` while an operation is under way.  `ph` are the handles the operation has taken out of the state and not yet put back:
closed descriptors on their way into a packet, or the content of a packet taken off a queue.  `S` stays the same through the
primitive steps of an operation (only a new channel joins it) and contains every socket that exists, now and in between: a
receiver in `ph` is held by nobody and carried by nothing, so it does not exist at that moment, but it stays in `S`.  "Contains"
is stated as closure (`root`, `edge`, `pend`) and read off by `Own.reach`; nothing more is needed of `S`, and it may be larger
than what exists. -/
structure Own (S : Nat → Prop) (ph : List Handle) (u : Unix.St) : Prop where
  uniq : ∀ x, trc u.chans x + heldN u x + rc ph x ≤ 1
  bound : ∀ x, u.chans.length ≤ x → trc u.chans x + rc ph x = 0
  root : ∀ x, Unix.rootB u x = true → S x
  edge : ∀ d x, S d → Unix.carriesRcv u d x = true → S x
  pend : ∀ x, Handle.rcv x ∈ ph → S x

variable {S : Nat → Prop} {ph ph' : List Handle} {u u' : Unix.St}

theorem Own.uinv (h : Own S [] u) : UInv u := ⟨h.uniq, h.bound⟩

theorem UInv.own (hI : UInv u) : Own (RU u) [] u :=
  ⟨hI.uniq, hI.bound, fun _ => ru_root, fun _ _ => ru_edge hI, nofun⟩

theorem Own.reach (h : Own S ph u) {c : Nat} (hc : RU u c) : S c := by
  induction hc with
  | root c _ hr => exact h.root c hr
  | edge d c _ _ he ih => exact h.edge d c ih he

theorem Own.of_le (h : Own S ph u) (hlen : u'.chans.length = u.chans.length)
    (hcount : ∀ x, trc u'.chans x + heldN u' x + rc ph' x ≤ trc u.chans x + heldN u x + rc ph x)
    (root : ∀ x, Unix.rootB u' x = true → S x) (edge : ∀ d x, S d → Unix.carriesRcv u' d x = true → S x)
    (pend : ∀ x, Handle.rcv x ∈ ph' → S x) : Own S ph' u' := by
  refine ⟨fun x => Nat.le_trans (hcount x) (h.uniq x), fun x hx => ?_, root, edge, pend⟩
  have := hcount x
  have := h.bound x (hlen ▸ hx)
  have : heldN u x = 0 := by
    simp [heldN, rootB_false_of_none (List.getElem?_eq_none (hlen ▸ hx))]
  omega

/-- The queues stay: only what the program holds changes, against what the operation has in hand. -/
theorem Own.rehold {f : Nat → Unix.Chan → Unix.Chan} (h : Own S ph u)
    (hg : ∀ d, u'.chans[d]? = (u.chans[d]?).map (f d)) (hq : ∀ d ch, (f d ch).queue = ch.queue)
    (hcount : ∀ x, heldN u' x + rc ph' x ≤ heldN u x + rc ph x) (root : ∀ x, Unix.rootB u' x = true → S x)
    (pend : ∀ x, Handle.rcv x ∈ ph' → S x) : Own S ph' u' := by
  refine h.of_le (ListLookup.length_eq_of_isSome fun d => by simp [hg]) (fun x => ?_) root
    (fun d x hd hc => h.edge d x hd (carries_keep hg hq d x ▸ hc)) pend
  rw [trc_keep hg hq, Nat.add_assoc, Nat.add_assoc]
  exact Nat.add_le_add_left (hcount x) _

theorem Own.senders (h : Own S ph u) (c : Nat) (k : Unix.Chan → Nat) : Own S ph (Unix.modify u c fun ch => { ch with senders := k ch }) := by
  have hg := Unix.modify_get u c fun ch => { ch with senders := k ch }
  have hr := root_keep hg fun d ch => by split <;> rfl
  refine h.rehold hg (fun d ch => by split <;> rfl) (fun x => ?_) (fun x hx => h.root x (hr x ▸ hx)) h.pend
  rw [heldN, heldN, hr]
  exact Nat.le_refl _

theorem valid_send {hs : List Handle} {c tag : Nat} (hv : Unix.validOp u (.send c tag hs) = true) :
    ∀ d, Handle.rcv d ∈ hs → Unix.rootB u d = true ∧ hs.count (.rcv d) = 1 := by
  intro d hd
  have := List.all_eq_true.mp hv (.rcv d) hd
  simpa using this

/-- the descriptors of the embedded receivers are closed: the program held each, once, and now the operation does -/
theorem Own.unhold {hs : List Handle} (h : Own S [] u)
    (hval : ∀ d, Handle.rcv d ∈ hs → Unix.rootB u d = true ∧ hs.count (.rcv d) = 1) : Own S hs (Unix.unhold u hs) := by
  have hg := Unix.unhold_get u hs
  have hr := fun x => (root_unhold hg x).mp
  refine h.rehold hg (fun d ch => by split <;> rfl) (fun x => ?_) (fun x hx => h.root x (hr x hx).1) fun x hx => h.root x (hval x hx).1
  by_cases hx : Handle.rcv x ∈ hs
  · have : heldN u x = 1 := if_pos (hval x hx).1
    have : heldN (Unix.unhold u hs) x = 0 := if_neg fun h => (hr x h).2 hx
    have : rc hs x = 1 := (hval x hx).2
    omega
  · have : rc hs x = 0 := List.count_eq_zero.mpr hx
    have := heldN_mono fun h => (hr x h).1
    omega

/-- One queue is changed: what it newly carries comes out of the operation's hands (so is in `S`), and the count says where
what it no longer carries has gone. -/
theorem Own.requeue {c : Nat} {uc : Unix.Chan} (g : List Msg → List Msg) (h : Own S ph u)
    (huc : u.chans[c]? = some uc) (hcount : ∀ x, qrc (g uc.queue) x + rc ph' x ≤ qrc uc.queue x + rc ph x)
    (hnew : ∀ m, m ∈ g uc.queue → m ∈ uc.queue ∨ ∀ x, Handle.rcv x ∈ m.handles → S x) (pend : ∀ x, Handle.rcv x ∈ ph' → S x) :
    Own S ph' (Unix.modify u c fun ch => { ch with queue := g ch.queue }) := by
  have hg := Unix.modify_get u c fun ch => { ch with queue := g ch.queue }
  have hr := root_keep hg fun d ch => by split <;> rfl
  refine h.of_le (Unix.modify_len ..) (fun x => ?_) (fun x hx => h.root x (hr x ▸ hx)) (fun d x hd hc => ?_) pend
  · have : trc (Unix.modify u c fun ch => { ch with queue := g ch.queue }).chans x + qrc uc.queue x = trc u.chans x + qrc (g uc.queue) x :=
      trc_modify u.chans c uc _ x huc
    have := hcount x
    rw [heldN, heldN, hr]
    omega
  · obtain ⟨ud, m, h1, h2, h3⟩ := (carries_map hg d x).mp hc
    have hold : m ∈ ud.queue → S x := fun h2 => h.edge d x hd ((carriesU_iff u d x).mpr ⟨ud, m, h1, h2, h3⟩)
    split at h2
    · rename_i hcd
      subst hcd
      cases huc.symm.trans h1
      exact (hnew m h2).elim hold fun hS => hS x h3
    · exact hold h2

/-- `c` need not be in `S`: what the packet carries is in `S` by `pend` -/
theorem Own.enqueue {c : Nat} {uc : Unix.Chan} {m : Msg} (h : Own S m.handles u)
    (huc : u.chans[c]? = some uc) : Own S [] (Unix.modify u c fun ch => { ch with queue := ch.queue ++ [m] }) :=
  h.requeue (· ++ [m]) huc
    (fun x => by rw [qrc_append, qrc_cons, qrc_nil]; exact Nat.le_refl _)
    (fun _ hm => (List.mem_append.mp hm).elim .inl fun e => .inr (List.mem_singleton.mp e ▸ h.pend))
    nofun

/-- what the head packet carries is in `S` only because `c` is, by `edge`: hence `hc` -/
theorem Own.dequeue {c : Nat} {uc : Unix.Chan} {m : Msg} {q : List Msg} (h : Own S [] u) (hc : S c)
    (huc : u.chans[c]? = some uc) (hq : uc.queue = m :: q) : Own S m.handles (Unix.modify u c fun ch => { ch with queue := q }) :=
  h.requeue (fun _ => q) huc
    (fun x => by rw [hq, qrc_cons, Nat.add_comm]; exact Nat.le_add_right _ _)
    (fun m' hm => .inl (hq ▸ List.mem_cons_of_mem _ hm))
    (fun x hx => h.edge c x hc ((carriesU_iff u c x).mpr ⟨uc, m, huc, hq ▸ List.mem_cons_self, hx⟩))

theorem Own.install {hs : List Handle} (h : Own S hs u) : Own S [] (Unix.install u hs) := by
  refine h.rehold (Unix.install_get u hs) (fun _ _ => rfl) (fun x => ?_) (fun x hx => (root_install hx).elim (h.root x) (h.pend x)) nofun
  show heldN (Unix.install u hs) x ≤ _
  by_cases hx : Handle.rcv x ∈ hs
  · exact Nat.le_trans (heldN_le_one _ x) (Nat.le_trans (rc_pos_of_mem hx) (Nat.le_add_left _ _))
  · exact Nat.le_trans (heldN_mono fun h => (root_install h).resolve_right hx) (Nat.le_add_right _ _)

theorem Own.newChan (h : Own S [] u) : Own (fun x => S x ∨ x = u.chans.length) [] ⟨u.chans ++ [⟨[], 1, true⟩]⟩ := by
  have hroot : ∀ x, x < u.chans.length → Unix.rootB ⟨u.chans ++ [⟨[], 1, true⟩]⟩ x = Unix.rootB u x := by
    intro x hx
    unfold Unix.rootB
    rw [List.getElem?_append_left hx]
  have htrc : ∀ x, trc (u.chans ++ [⟨[], 1, true⟩]) x = trc u.chans x := fun x => by rw [trc_append]; rfl
  refine ⟨fun x => ?_, fun x hx => ?_, fun x hx => ?_, fun d x hd hc => ?_, nofun⟩
  · simp only [htrc]
    by_cases hx : x < u.chans.length
    · rw [heldN, hroot x hx]
      exact h.uniq x
    · have := h.bound x (Nat.le_of_not_lt hx)
      have := heldN_le_one ⟨u.chans ++ [⟨[], 1, true⟩]⟩ x
      omega
  · simp only [htrc]
    exact h.bound x (Nat.le_of_succ_le (by simpa using hx))
  · by_cases hl : x < u.chans.length
    · exact .inl (h.root x (hroot x hl ▸ hx))
    · obtain ⟨_, h1, _⟩ := (rootU_iff _ x).mp hx
      exact .inr ((ListLookup.get_concat.mp h1).elim (fun h1 => absurd (ListLookup.lt_of_get h1) hl) (·.1))
  · obtain ⟨ud, m, h1, h2, h3⟩ := (carriesU_iff _ d x).mp hc
    rcases ListLookup.get_concat.mp h1 with h1 | ⟨_, rfl⟩
    · exact .inl (h.edge d x (hd.resolve_right (Nat.ne_of_lt (ListLookup.lt_of_get h1))) ((carriesU_iff u d x).mpr ⟨ud, m, h1, h2, h3⟩))
    · cases h2

end Refine
