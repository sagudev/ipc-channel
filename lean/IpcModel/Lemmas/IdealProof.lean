import IpcModel.Ideal
import IpcModel.Lemmas.ListLookup
/-! The specification `Ideal` on its own: each state transformer by what it does to `chans[d]?` (for the destruction cascade
`dropHandles` that is `Refine.dropHandles_char`, which the refinement proof uses as well), and per-channel FIFO. -/
namespace Ideal

theorem modify_get (st : St) (c : Nat) (f : Chan → Chan) (d : Nat) :
    (modify st c f).chans[d]? = (st.chans[d]?).map fun ch => if c = d then f ch else ch := by
  simp only [modify, List.getElem?_modify, Option.map_eq_map]

theorem modify_len (st : St) (c : Nat) (f : Chan → Chan) : (modify st c f).chans.length = st.chans.length :=
  List.length_modify ..

theorem markInMsg_get (hs : List Handle) (st : St) (d : Nat) :
    (markInMsg st hs).chans[d]? = (st.chans[d]?).map fun ch => if hs.contains (.rcv d) then { ch with rx := .inMsg } else ch := by
  induction hs generalizing st with
  | nil => show st.chans[d]? = _; cases st.chans[d]? <;> rfl
  | cons h t ih =>
    simp only [markInMsg, List.foldl_cons] at ih ⊢
    rw [ih]
    cases h with
    | rcv e =>
      rw [modify_get, Option.map_map]
      congr 1; funext ch
      by_cases hed : e = d
      · simp [hed]
      · simp [hed, Ne.symm hed]
    | _ => rfl

theorem unpack_get (hs : List Handle) (st : St) (d : Nat) :
    (unpack st hs).chans[d]? = (st.chans[d]?).map fun ch =>
      { ch with rx := if hs.contains (.rcv d) then .held else ch.rx, senders := ch.senders + hs.count (.snd d) } := by
  induction hs generalizing st with
  | nil => show st.chans[d]? = _; cases st.chans[d]? <;> rfl
  | cons h t ih =>
    simp only [unpack, List.foldl_cons] at ih ⊢
    rw [ih]
    cases h with
    | shm e => rfl
    | rcv e | snd e =>
      rw [modify_get, Option.map_map]
      congr 1; funext ch
      by_cases hed : e = d
      · simp [hed, Nat.add_assoc, Nat.add_comm]
      · simp [hed, Ne.symm hed]

theorem markInMsg_len (hs : List Handle) (st : St) : (markInMsg st hs).chans.length = st.chans.length :=
  ListLookup.length_eq_of_isSome fun d => by simp [markInMsg_get]

theorem unpack_len (hs : List Handle) (st : St) : (unpack st hs).chans.length = st.chans.length :=
  ListLookup.length_eq_of_isSome fun d => by simp [unpack_get]

end Ideal

namespace Refine
open Ideal (Handle Msg)

/-- what the cascade does to a channel it reaches; `Ideal.dropHandles` and `Ideal.step` spell it out in place -/
def kill (ch : Ideal.Chan) : Ideal.Chan := { ch with rx := .dropped, queue := [] }

/-- channels whose receiver handle is on the work list, or inside a message queued on such a channel, and so on -/
inductive Src (i : Ideal.St) (wl : List Handle) : Nat → Prop
  | base (x : Nat) : Handle.rcv x ∈ wl → Src i wl x
  | step (e x : Nat) (ch : Ideal.Chan) (m : Msg) : Src i wl e → i.chans[e]? = some ch → m ∈ ch.queue → Handle.rcv x ∈ m.handles → Src i wl x

theorem Src.mono {i : Ideal.St} {wl wl' : List Handle} (h : ∀ x, x ∈ wl → x ∈ wl') {d : Nat} (hs : Src i wl d) : Src i wl' d := by
  induction hs with
  | base x hx => exact .base x (h _ hx)
  | step e x ch m _ h1 h2 h3 ih => exact .step e x ch m ih h1 h2 h3

theorem Src.of_kill {i : Ideal.St} {e : Nat} {ch : Ideal.Chan} {rest : List Handle} (he : i.chans[e]? = some ch) {x : Nat}
    (hx : Src (Ideal.modify i e kill) (ch.queue.flatMap (·.handles) ++ rest) x) : Src i (.rcv e :: rest) x := by
  induction hx with
  | base y hy =>
    rcases List.mem_append.mp hy with hy | hy
    · obtain ⟨m, hm1, hm2⟩ := List.mem_flatMap.mp hy
      exact .step e y ch m (.base e List.mem_cons_self) he hm1 hm2
    · exact .base y (List.mem_cons_of_mem _ hy)
  | step e' y ch' m _ h1 h2 h3 ih =>
    rw [Ideal.modify_get, Option.map_eq_some_iff] at h1
    obtain ⟨c', hi, h1⟩ := h1
    by_cases hee : e = e'
    · -- the queue of `e` is empty by now
      rw [if_pos hee] at h1
      subst h1
      cases h2
    · rw [if_neg hee] at h1
      subst h1
      exact .step e' y c' m ih hi h2 h3

/-- The cascade takes fuel, its recursion not being structural (the work list grows by what a destroyed queue carried, and a
receiver may sit in its own queue).  This holds for any fuel: nothing below asks whether `Ideal.handlesCount` is enough. -/
theorem dropHandles_char (fuel : Nat) (i : Ideal.St) (wl : List Handle) (d : Nat) :
    (Ideal.dropHandles fuel i wl).chans[d]? = i.chans[d]? ∨
    (Src i wl d ∧ (Ideal.dropHandles fuel i wl).chans[d]? = (i.chans[d]?).map kill) := by
  -- the work list starts with: 3 a receiver of an existing channel, 4 of none, 5 another handle (1 no fuel, 2 empty list)
  fun_induction Ideal.dropHandles fuel i wl with
  | case1 | case2 => exact .inl rfl
  | case3 fuel i e rest ch he i1 ih =>
    have h1 : i1.chans[d]? = (i.chans[d]?).map fun c => if e = d then kill c else c := Ideal.modify_get i e _ d
    by_cases hed : e = d
    · -- `d` heads the work list: destroyed in this round, and destroying it again changes nothing
      subst hed
      simp only [if_true] at h1
      refine .inr ⟨.base e List.mem_cons_self, ?_⟩
      rcases ih with h | ⟨_, h⟩
      · rw [h, h1]
      · rw [h, h1, Option.map_map]
        rfl
    · simp only [if_neg hed, Option.map_id'] at h1
      rw [h1] at ih
      exact ih.imp_right (And.imp_left (Src.of_kill he))
  | case4 _ _ _ _ _ ih | case5 _ _ _ _ _ ih => exact ih.imp_right (And.imp_left (Src.mono fun x hx => List.mem_cons_of_mem _ hx))

theorem dropHandles_len (fuel : Nat) (i : Ideal.St) (wl : List Handle) : (Ideal.dropHandles fuel i wl).chans.length = i.chans.length :=
  ListLookup.length_eq_of_isSome fun d => by rcases dropHandles_char fuel i wl d with h | ⟨_, h⟩ <;> simp [h]

end Refine

namespace Ideal

def Q (st : St) (d : Nat) : Option (List Msg) := (st.chans[d]?).map (·.queue)

theorem Q_keep {st st' : St} {d : Nat} {f : Chan → Chan} (h : st'.chans[d]? = (st.chans[d]?).map f)
    (hq : ∀ ch, (f ch).queue = ch.queue) : Q st' d = Q st d := by
  rw [Q, h, Option.map_map]
  exact congrArg (Option.map · _) (funext hq)

theorem Q_modify {st : St} {c d : Nat} {f : Chan → Chan} (hf : c = d → ∀ ch, (f ch).queue = ch.queue) : Q (modify st c f) d = Q st d :=
  Q_keep (modify_get st c f d) fun ch => by
    split
    · exact hf ‹_› ch
    · rfl

theorem Q_markInMsg (hs : List Handle) (st : St) (d : Nat) : Q (markInMsg st hs) d = Q st d :=
  Q_keep (markInMsg_get hs st d) fun ch => by split <;> rfl

theorem Q_unpack (hs : List Handle) (st : St) (d : Nat) : Q (unpack st hs) d = Q st d :=
  Q_keep (unpack_get hs st d) fun _ => rfl

theorem Q_dropHandles (fuel : Nat) (st : St) (wl : List Handle) (d : Nat) :
    Q (dropHandles fuel st wl) d = Q st d ∨ ∃ ch', (dropHandles fuel st wl).chans[d]? = some ch' ∧ ch'.rx = .dropped ∧ ch'.queue = [] := by
  rcases Refine.dropHandles_char fuel st wl d with h | ⟨_, h⟩
  · exact .inl (congrArg (Option.map _) h)
  · cases h' : st.chans[d]? with
    | none => exact .inl (by rw [Q, Q, h, h']; rfl)
    | some ch => exact .inr ⟨Refine.kill ch, by rw [h, h']; rfl, rfl, rfl⟩

/-- messages successfully sent on channel `d` / received from it -/
def contribS (d : Nat) : Op × Res → List Msg
  | (.send c tag hs, .ok) => if c = d then [⟨tag, hs⟩] else []
  | _ => []
def contribR (d : Nat) : Op × Res → List Msg
  | (.recv c, .msg t hs) => if c = d then [⟨t, hs⟩] else []
  | _ => []

theorem contribS_nil_iff {d : Nat} {op : Op} {r : Res} : contribS d (op, r) = [] ↔ ∀ tag hs, op = .send d tag hs → r ≠ .ok := by
  constructor
  · rintro h tag hs rfl rfl
    simp [contribS] at h
  · intro h
    unfold contribS
    split
    · rename_i c tag hs e
      cases e
      exact if_neg fun hcd => h tag hs (by rw [hcd]) rfl
    · rfl

theorem contribR_nil_iff {d : Nat} {op : Op} {r : Res} : contribR d (op, r) = [] ↔ ∀ t hs, op = .recv d → r ≠ .msg t hs := by
  constructor
  · rintro h t hs rfl rfl
    simp [contribR] at h
  · intro h
    unfold contribR
    split
    · rename_i c t hs e
      cases e
      exact if_neg fun hcd => h t hs (by rw [hcd]) rfl
    · rfl

/-- what one operation does to the queue of channel `d` -/
inductive QEffect (st st' : St) (d : Nat) : Op → Res → Prop
  | appended (tag : Nat) (hs : List Handle) (q : List Msg) : Q st d = some q → Q st' d = some (q ++ [⟨tag, hs⟩]) →
      QEffect st st' d (.send d tag hs) .ok
  | popped (m : Msg) (q : List Msg) : Q st d = some (m :: q) → Q st' d = some q → QEffect st st' d (.recv d) (.msg m.tag m.handles)
  | kept (op : Op) (r : Res) : Q st' d = Q st d → (∀ tag hs, op = .send d tag hs → r ≠ .ok) → (∀ t h, op = .recv d → r ≠ .msg t h) →
      QEffect st st' d op r
  | destroyed (op : Op) (r : Res) (ch' : Chan) : st'.chans[d]? = some ch' → ch'.rx = .dropped → ch'.queue = [] →
      (∀ tag hs, op = .send d tag hs → r ≠ .ok) → (∀ t h, op = .recv d → r ≠ .msg t h) → QEffect st st' d op r
  -- `d` does not exist before the step: nothing is said
  | created (op : Op) (r : Res) : st.chans[d]? = none → QEffect st st' d op r

theorem QEffect.silent {st st' : St} {d : Nat} {op : Op} {r : Res}
    (h : Q st' d = Q st d ∨ ∃ ch', st'.chans[d]? = some ch' ∧ ch'.rx = .dropped ∧ ch'.queue = [])
    (hS : contribS d (op, r) = []) (hR : contribR d (op, r) = []) : QEffect st st' d op r := by
  rcases h with h | ⟨ch', h1, h2, h3⟩
  · exact .kept _ _ h (contribS_nil_iff.mp hS) (contribR_nil_iff.mp hR)
  · exact .destroyed _ _ ch' h1 h2 h3 (contribS_nil_iff.mp hS) (contribR_nil_iff.mp hR)

/-- **per-channel FIFO, one step**: sending, carrying, unpacking and re-sending the receiver handle of `d` leave the queue of
`d` untouched -/
theorem fifo_step (st : St) (op : Op) (d : Nat) : QEffect st (step st op).1 d op (step st op).2 := by
  cases hd : st.chans[d]? with
  | none => exact .created _ _ hd
  | some chd =>
  -- the 19 branches of `step`, numbered in the order of the definition: 1 `newChan`; 2–4 `cloneSender` and 5–7 `dropSender`
  -- (3 and 6 change the count); 8–11 `send` (10 enqueues, 11 fails and destroys what was embedded); 12–16 `recv` (14 takes
  -- the head); 17–19 `dropReceiver` (19 drops a held receiver)
  fun_cases step st op
  case case1 =>
    exact .silent (.inl (congrArg (Option.map _) ((ListLookup.get_append_left hd _).trans hd.symm))) rfl rfl
  case case3 | case6 => exact .silent (.inl (Q_modify fun _ _ => rfl)) rfl rfl
  case case10 c tag hs _ _ _ _ _ =>
    by_cases hcd : c = d
    · subst hcd
      refine .appended tag hs chd.queue (congrArg _ hd) ?_
      rw [Q, modify_get, markInMsg_get, hd]
      simp only [if_true]
      split <;> rfl
    · exact .silent (.inl ((Q_modify (absurd · hcd)).trans (Q_markInMsg ..))) (if_neg hcd) rfl
  case case11 => exact .silent ((Q_dropHandles ..).imp_left (·.trans (Q_markInMsg ..))) rfl rfl
  case case14 c ch hc _ m q hq _ =>
    by_cases hcd : c = d
    · subst hcd
      cases hd.symm.trans hc
      refine .popped m q (by rw [Q, hd]; exact congrArg some hq) ?_
      rw [Q_unpack, Q, modify_get, hd]
      simp only [Option.map_some, if_true]
    · exact .silent (.inl ((Q_unpack ..).trans (Q_modify (absurd · hcd)))) rfl (if_neg hcd)
  case case19 c _ _ _ _ =>
    by_cases hcd : c = d
    · -- the first round of the cascade, on `d` itself
      subst hcd
      have hk : (modify st c Refine.kill).chans[c]? = some (Refine.kill chd) := by rw [modify_get, hd, Option.map_some, if_pos rfl]
      rcases Refine.dropHandles_char (handlesCount st + 1) (modify st c Refine.kill) _ c with h | ⟨_, h⟩
      · exact .silent (.inr ⟨_, h.trans hk, rfl, rfl⟩) rfl rfl
      · exact .silent (.inr ⟨_, h.trans (congrArg _ hk), rfl, rfl⟩) rfl rfl
    · exact .silent ((Q_dropHandles ..).imp_left (·.trans (Q_modify (absurd · hcd)))) rfl rfl
  -- every other branch returns the state as it is, with a result that is neither `ok` nor a message
  all_goals exact .silent (.inl rfl) rfl rfl

def runFrom (st : St) : List Op → St × List (Op × Res)
  | [] => (st, [])
  | op :: ops => let r := step st op; let rest := runFrom r.1 ops; (rest.1, (op, r.2) :: rest.2)

def sentOn (d : Nat) (h : List (Op × Res)) : List Msg := h.flatMap (contribS d)
def recvdOn (d : Nat) (h : List (Op × Res)) : List Msg := h.flatMap (contribR d)

/-- at some point of the history the receiver of `d` was destroyed (dropped by the program, or the message carrying it
was destroyed undelivered) -/
def DestroyedAlong (st : St) (d : Nat) : List Op → Prop
  | [] => False
  | op :: ops => (∃ ch', (step st op).1.chans[d]? = some ch' ∧ ch'.rx = .dropped ∧ ch'.queue = []) ∨ DestroyedAlong (step st op).1 d ops

theorem fifo_step_backlog {st st' : St} {d : Nat} {op : Op} {r : Res} {q0 : List Msg} (h : QEffect st st' d op r) (hQ : Q st d = some q0) :
    (∃ ch', st'.chans[d]? = some ch' ∧ ch'.rx = .dropped ∧ ch'.queue = []) ∨
    ∃ q1, Q st' d = some q1 ∧ contribR d (op, r) ++ q1 = q0 ++ contribS d (op, r) := by
  cases h with
  | appended tag hs q h1 h2 => exact .inr ⟨_, h2, by cases hQ.symm.trans h1; simp [contribS, contribR]⟩
  | popped m q h1 h2 => exact .inr ⟨_, h2, by cases hQ.symm.trans h1; simp [contribS, contribR]⟩
  | kept _ _ h1 hns hnr => exact .inr ⟨q0, h1 ▸ hQ, by simp [contribS_nil_iff.mpr hns, contribR_nil_iff.mpr hnr]⟩
  | destroyed _ _ ch' h1 h2 h3 _ _ => exact .inl ⟨ch', h1, h2, h3⟩
  | created _ _ h1 => simp [Q, h1] at hQ

/-- **per-channel FIFO over whole histories**, up to the destruction of `d`'s receiver, however often its handle travelled
inside other messages -/
theorem fifo_run (ops : List Op) (st : St) (d : Nat) (q0 : List Msg) (hQ : Q st d = some q0) :
    DestroyedAlong st d ops ∨
    ∃ q', Q (runFrom st ops).1 d = some q' ∧ recvdOn d (runFrom st ops).2 ++ q' = q0 ++ sentOn d (runFrom st ops).2 := by
  induction ops generalizing st q0 with
  | nil => right; exact ⟨q0, hQ, by simp [runFrom, recvdOn, sentOn]⟩
  | cons op ops ih =>
    simp only [runFrom, recvdOn, sentOn, List.flatMap_cons]
    rcases fifo_step_backlog (fifo_step st op d) hQ with h | ⟨q1, h1, e1⟩
    · exact .inl (.inl h)
    rcases ih _ q1 h1 with h | ⟨q', hq', e⟩
    · exact .inl (.inr h)
    · refine .inr ⟨q', hq', ?_⟩
      simp only [recvdOn, sentOn] at e
      rw [List.append_assoc, e, ← List.append_assoc, e1, List.append_assoc]

theorem run_eq_runFrom (ops : List Op) : (run ops).1 = (runFrom ⟨[]⟩ ops).1 ∧ (run ops).2 = (runFrom ⟨[]⟩ ops).2.map (·.2) := by
  have gen : ∀ (st : St) (acc : List Res),
      ops.foldl (fun (a : St × List Res) op => let r := step a.1 op; (r.1, a.2 ++ [r.2])) (st, acc)
        = ((runFrom st ops).1, acc ++ (runFrom st ops).2.map (·.2)) := by
    induction ops with
    | nil => intro st acc; simp [runFrom]
    | cons op ops ih => intro st acc; simp [runFrom, ih]
  simp [run, gen]

end Ideal
