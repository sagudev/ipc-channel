import IpcModel.SideTable
/-! The serialisation side tables under the repaired `send`.  `ipcSend` puts the tables back whatever its value does, so
to the enclosing `ser` a nested send is a node without attachments and `ser_spec` is a plain induction; only `ser_sc`,
which also speaks of the messages the nested sends produce, recurses as `ser` does. -/
namespace Side
open Wire (Bytes)

/-- **tables restored**: on success, serialisation failure at any point, OS failure, with nested sends inside,
`IpcSender::send` leaves the thread-local tables as it found them -/
theorem ipcSend_restores (osOk : Nat → Bool) (tx : Nat) (v : List Node) (tls : Tls) (eff : Eff) :
    (ipcSend ⟨false⟩ osOk tx v tls eff).2.1 = tls := by
  unfold ipcSend
  split
  · simp
  · split <;> simp

theorem serNode_spec {osOk : Nat → Bool} {n : Node} {tls : Tls} {eff : Eff} {b : Bytes} {tls' : Tls} {eff' : Eff}
    (h : serNode ⟨false⟩ osOk n tls eff = (some b, tls', eff')) :
    tls'.chans = tls.chans ++ ownChans [n] ∧ tls'.shms = tls.shms ++ ownShms [n] ∧
    b = ownBytes [n] tls.chans.length tls.shms.length := by
  cases n with
  | nested tx v =>
    have hr := ipcSend_restores osOk tx v tls eff
    rw [serNode] at h
    cases h
    simp [hr, ownChans, ownShms, ownBytes]
  | fail => rw [serNode] at h; cases h
  | _ => rw [serNode] at h; cases h; simp [ownChans, ownShms, ownBytes]

theorem ownChans_cons (n : Node) (r : List Node) : ownChans (n :: r) = ownChans [n] ++ ownChans r := by
  cases n <;> rfl
theorem ownShms_cons (n : Node) (r : List Node) : ownShms (n :: r) = ownShms [n] ++ ownShms r := by
  cases n <;> rfl
theorem ownBytes_cons (n : Node) (r : List Node) (nC nS : Nat) :
    ownBytes (n :: r) nC nS = ownBytes [n] nC nS ++ ownBytes r (nC + (ownChans [n]).length) (nS + (ownShms [n]).length) := by
  cases n <;> rfl

/-- nested sends inside a value leave no trace in the enclosing message -/
theorem ser_spec {osOk : Nat → Bool} {v : List Node} {tls : Tls} {eff : Eff} {b : Bytes} {tls' : Tls} {eff' : Eff}
    (h : ser ⟨false⟩ osOk v tls eff = (some b, tls', eff')) :
    tls'.chans = tls.chans ++ ownChans v ∧ tls'.shms = tls.shms ++ ownShms v ∧
    b = ownBytes v tls.chans.length tls.shms.length := by
  induction v generalizing tls eff b with
  | nil => rw [ser] at h; cases h; simp [ownChans, ownShms, ownBytes]
  | cons n rest ih =>
    rw [ser] at h
    split at h
    · cases h
    · rename_i b1 t1 e1 h1
      split at h
      · cases h
      · rename_i b2 t2 e2 h2
        cases h
        obtain ⟨c1, s1, rfl⟩ := serNode_spec h1
        obtain ⟨c2, s2, rfl⟩ := ih h2
        refine ⟨?_, ?_, ?_⟩
        · rw [c2, c1, ownChans_cons n rest, List.append_assoc]
        · rw [s2, s1, ownShms_cons n rest, List.append_assoc]
        · rw [c1, s1, ownBytes_cons n rest, List.length_append, List.length_append]

theorem ipcSend_sent (osOk : Nat → Bool) (tx : Nat) (v : List Node) (tls : Tls) (eff : Eff) :
    (ipcSend ⟨false⟩ osOk tx v tls eff).1 = ((ser ⟨false⟩ osOk v ⟨[], []⟩ eff).1.isSome && osOk tx) ∧
    (ipcSend ⟨false⟩ osOk tx v tls eff).2.2.sent = (ser ⟨false⟩ osOk v ⟨[], []⟩ eff).2.2.sent ++
      if (ipcSend ⟨false⟩ osOk tx v tls eff).1 then [⟨tx, ownBytes v 0 0, ownChans v, ownShms v⟩] else [] := by
  rw [ipcSend]
  split
  · next q =>
    rw [q]
    simp
  · next q =>
    obtain ⟨hc, hs, rfl⟩ := ser_spec q
    rw [q]
    cases osOk tx <;> simp [hc, hs]

/-- bytes and attachments are those of one value serialised against empty tables -/
def SelfContained (m : OsMsg) : Prop :=
  ∃ v : List Node, m.bytes = ownBytes v 0 0 ∧ m.chans = ownChans v ∧ m.shms = ownShms v

theorem ipcSend_sc (osOk : Nat → Bool) (tx : Nat) (v : List Node) (tls : Tls) (eff : Eff)
    (h : ∀ m ∈ (ser ⟨false⟩ osOk v ⟨[], []⟩ eff).2.2.sent, SelfContained m) :
    ∀ m ∈ (ipcSend ⟨false⟩ osOk tx v tls eff).2.2.sent, SelfContained m := by
  intro m hm
  rw [(ipcSend_sent osOk tx v tls eff).2, List.mem_append] at hm
  rcases hm with hm | hm
  · exact h m hm
  · split at hm
    · rw [List.mem_singleton] at hm; exact hm ▸ ⟨v, rfl, rfl, rfl⟩
    · cases hm

mutual
theorem ser_sc (osOk : Nat → Bool) : ∀ (v : List Node) (tls : Tls) (eff : Eff),
    (∀ m ∈ eff.sent, SelfContained m) → ∀ m ∈ (ser ⟨false⟩ osOk v tls eff).2.2.sent, SelfContained m
  | [], tls, eff, h => by rw [ser]; exact h
  | n :: rest, tls, eff, h => by
    rw [ser]
    have h1 := serNode_sc osOk n tls eff h
    split
    · next q1 => rw [q1] at h1; exact h1
    · next b1 t1 e1 q1 =>
      rw [q1] at h1
      have h2 := ser_sc osOk rest t1 e1 h1
      split
      · next q2 => rw [q2] at h2; exact h2
      · next q2 => rw [q2] at h2; exact h2
theorem serNode_sc (osOk : Nat → Bool) : ∀ (n : Node) (tls : Tls) (eff : Eff),
    (∀ m ∈ eff.sent, SelfContained m) → ∀ m ∈ (serNode ⟨false⟩ osOk n tls eff).2.2.sent, SelfContained m
  | .data _, _, _, h | .sender _, _, _, h | .receiver _, _, _, h | .shm _, _, _, h | .emptyShm, _, _, h | .fail, _, _, h => by
    rw [serNode]; exact h
  | .nested tx v, tls, eff, h => by
    rw [serNode]; exact ipcSend_sc osOk tx v tls eff (ser_sc osOk v ⟨[], []⟩ eff h)
end

end Side
