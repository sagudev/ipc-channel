import IpcModel.OneShot
import IpcModel.InprocReg
import IpcModel.Lemmas.OneShotProof
/-! The in-process registry answers connects as the OS rendezvous does.  `OneShot` models the OS transport's rendezvous
(listening sockets bound to names), `InprocReg` the in-process transport's registry.  Run the same client program on both
(every `new` succeeds, as the in-process `new` cannot fail, and `accept` / `dropServer` act on the registry exactly when they
complete in `OneShot`): after every prefix a server is still waiting in one model iff it is in the other, so every `connect`
gets the same answer. -/
namespace RegRefine
open OneShot ListLookup

def liveS (sv : Srv) : Bool := sv.listening && sv.fdOpen
def liveV (st : St) : List Bool := st.srvs.map liveS

/-- what a `OneShot` operation (with the result it had) means for the registry -/
def proj (op : Op) (res : Res) : Option InprocReg.Op :=
  match op with
  | .new _ => some .new
  | .connect n => some (.connect n)
  | .accept s => if res = .blocks ∨ res = .invalid then none else some (.accept s)
  | .dropServer s => if res = .ok then some (.dropServer s) else none
  | _ => none

/-- server `k` has name `k` (`next`: and so will the one created next); in `OneShot` a server listens exactly while its
descriptor is open (`both`), so that `liveS` is `fdOpen` -/
structure Rel (a : St) (b : InprocReg.St) : Prop where
  len : b.phase.length = a.srvs.length
  next : a.nextName = a.srvs.length
  names : ∀ (k : Nat) (sv : Srv), a.srvs[k]? = some sv → sv.name = k
  live : ∀ k : Nat, (b.phase[k]? = some InprocReg.Phase.live) ↔ ((liveV a)[k]? = some true)
  inv : InprocReg.Inv b
  both : ∀ (k : Nat) (sv : Srv), a.srvs[k]? = some sv → sv.listening = sv.fdOpen

theorem Rel.of_pointwise {a : St} {b : InprocReg.St} (len : b.phase.length = a.srvs.length) (next : a.nextName = a.srvs.length)
    (inv : InprocReg.Inv b)
    (h : ∀ k (sv : Srv), a.srvs[k]? = some sv →
      sv.name = k ∧ sv.listening = sv.fdOpen ∧ (b.phase[k]? = some .live ↔ sv.fdOpen = true)) : Rel a b := by
  refine ⟨len, next, fun k sv hk => (h k sv hk).1, fun k => ?_, inv, fun k sv hk => (h k sv hk).2.1⟩
  simp only [liveV, List.getElem?_map]
  cases hk : a.srvs[k]? with
  | none =>
    have : b.phase[k]? = none := by rw [List.getElem?_eq_none_iff] at hk ⊢; omega
    simp [this]
  | some sv => simpa [liveS, (h k sv hk).2.1] using (h k sv hk).2.2

theorem Rel.pointwise {a : St} {b : InprocReg.St} (h : Rel a b) {k : Nat} {sv : Srv} (hk : a.srvs[k]? = some sv) :
    sv.name = k ∧ sv.listening = sv.fdOpen ∧ (b.phase[k]? = some .live ↔ sv.fdOpen = true) :=
  ⟨h.names k sv hk, h.both k sv hk, by simpa [liveV, hk, liveS, h.both k sv hk] using h.live k⟩

theorem Rel.live_iff {a : St} {b : InprocReg.St} (h : Rel a b) {k : Nat} {sv : Srv} (hk : a.srvs[k]? = some sv) :
    b.phase[k]? = some .live ↔ sv.fdOpen = true := (h.pointwise hk).2.2

theorem Rel.congr {a a' : St} {b : InprocReg.St} (h : Rel a b)
    (hs : a'.srvs.map (fun sv => (sv.name, sv.listening, sv.fdOpen)) = a.srvs.map (fun sv => (sv.name, sv.listening, sv.fdOpen)))
    (hn : a'.nextName = a.nextName) : Rel a' b := by
  have hlen : a'.srvs.length = a.srvs.length := by simpa using congrArg List.length hs
  refine .of_pointwise (h.len.trans hlen.symm) (hn.trans (h.next.trans hlen.symm)) h.inv fun k sv' hk => ?_
  have hk' := congrArg (·[k]?) hs
  simp only [List.getElem?_map, hk] at hk'
  obtain ⟨sv, hsv, e⟩ := Option.map_eq_some_iff.mp hk'.symm
  obtain ⟨e1, e2, e3⟩ : sv.name = sv'.name ∧ sv.listening = sv'.listening ∧ sv.fdOpen = sv'.fdOpen := by simpa using e
  have := h.pointwise hsv
  rwa [e1, e2, e3] at this

theorem rel_new {a : St} {b : InprocReg.St} (h : Rel a b) :
    Rel { a with srvs := a.srvs ++ [⟨a.nextName, true, true, true, []⟩], nextName := a.nextName + 1 }
      (InprocReg.step InprocReg.fixed b .new).1 := by
  rw [InprocReg.step_new h.inv.healthy]
  refine .of_pointwise (by simp [h.len]) (by simp [h.next]) (InprocReg.inv_new h.inv) fun k sv hk => ?_
  rcases get_concat.mp hk with hk | ⟨rfl, rfl⟩
  · rw [List.getElem?_append_left (h.len ▸ lt_of_get hk)]; exact h.pointwise hk
  · simp [h.next, ← h.len]

theorem rel_retire {a : St} {b : InprocReg.St} (h : Rel a b) {s : Nat} {sv : Srv} (hs : a.srvs[s]? = some sv)
    {ph : InprocReg.Phase} (hph : ph ≠ .live) :
    Rel (retire a s) { b with phase := b.phase.set s ph, reg := b.reg.erase s } := by
  have ha := retire_srvs hs
  refine .of_pointwise (by simp [ha, h.len]) (by simp [ha, retire_nextName, h.next]) (InprocReg.inv_retire h.inv s hph)
    fun k svk hk => ?_
  rcases get_set.mp (ha ▸ hk) with ⟨rfl, hlt, rfl⟩ | ⟨hks, hk⟩
  · simp [h.names k sv hs, hph, List.getElem?_set_self (h.len.symm ▸ hlt)]
  · rw [List.getElem?_set_ne (Ne.symm hks)]; exact h.pointwise hk

def regAfter (b : InprocReg.St) (op : Op) (res : Res) : InprocReg.St :=
  match proj op res with
  | some o => (InprocReg.step InprocReg.fixed b o).1
  | none => b

theorem regAfter_refused {op : Op} {r : Res} (hr : r ∈ refusals op) {b : InprocReg.St} (hb : InprocReg.Inv b) :
    regAfter b op r = b := by
  cases op with
  | new => cases hr
  | connect n => exact congrArg Prod.fst (InprocReg.step_connect hb n)
  | accept s => simp only [refusals, List.mem_cons, List.not_mem_nil, or_false] at hr; rcases hr with rfl | rfl <;> rfl
  | dropServer s => simp only [refusals, List.mem_cons, List.not_mem_nil, or_false] at hr; subst hr; rfl
  | _ => rfl

theorem _root_.OneShot.Step.rel {a a' : St} {op : Op} {r : Res} (hs : Step a op a' r) {b : InprocReg.St} (h : Rel a b)
    (hnew : ∀ k, op ≠ .new (k + 1)) : Rel a' (regAfter b op r) := by
  cases hs with
  | stay hr => rw [regAfter_refused hr h.inv]; exact h
  | new => exact rel_new h
  | newFail hk =>
    obtain ⟨k, rfl⟩ := Nat.exists_eq_succ_of_ne_zero hk
    exact absurd rfl (hnew k)
  | connect =>
    show Rel _ (InprocReg.step InprocReg.fixed b (.connect _)).1
    rw [InprocReg.step_connect h.inv]
    exact h.congr (map_modify_of_eq _ (by intro _; rfl) _ _) rfl
  | csend | cclose | recv | dropRx => exact h.congr rfl rfl
  | dropServer hs ho =>
    show Rel _ (InprocReg.step InprocReg.fixed b (.dropServer _)).1
    rw [InprocReg.step_drop_live ((h.live_iff hs).mpr ho)]
    exact rel_retire h hs (by decide)
  | accept hs ho | acceptGone hs ho =>
    show Rel _ (InprocReg.step InprocReg.fixed b (.accept _)).1
    rw [InprocReg.step_accept_live h.inv.healthy ((h.live_iff hs).mpr ho)]
    refine rel_retire ?_ (List.getElem?_set_self (lt_of_get hs)) (by decide)
    exact h.congr (map_set_of_eq _ hs rfl) rfl

theorem rel_step {a : St} {b : InprocReg.St} (h : Rel a b) (op : Op) (hnew : ∀ k, op ≠ .new (k + 1)) :
    Rel (step a op).1 (regAfter b op (step a op).2) := (step_spec a op).rel h hnew

def runBoth : St × InprocReg.St → List Op → St × InprocReg.St
  | p, [] => p
  | (a, b), op :: ops => runBoth ((step a op).1, regAfter b op (step a op).2) ops

theorem rel_init : Rel ⟨[], [], 0⟩ ⟨[], [], false⟩ :=
  .of_pointwise rfl rfl InprocReg.inv_init fun k sv hk => by simp at hk

theorem rel_run (ops : List Op) (hnew : ∀ op ∈ ops, ∀ k, op ≠ .new (k + 1)) {a : St} {b : InprocReg.St} (h : Rel a b) :
    Rel (runBoth (a, b) ops).1 (runBoth (a, b) ops).2 := by
  induction ops generalizing a b with
  | nil => exact h
  | cons op ops ih => exact ih (fun o ho => hnew o (List.mem_cons_of_mem _ ho)) (rel_step h op (hnew op List.mem_cons_self))

theorem connect_agree {a : St} {b : InprocReg.St} (h : Rel a b) (n : Nat) :
    ((∃ c, (step a (.connect n)).2 = .conn c) ↔ (InprocReg.step InprocReg.fixed b (.connect n)).2 = .connected n) ∧
    ((step a (.connect n)).2 = .err ↔ (InprocReg.step InprocReg.fixed b (.connect n)).2 = .err) := by
  -- the rendezvous finds a listening server named `n` iff server `n` is live: names are indices
  have key : (a.srvs.findIdx? (fun sv => sv.name == n && sv.listening && sv.fdOpen)).isSome = true ↔ b.phase[n]? = some .live := by
    rw [List.findIdx?_isSome, List.any_eq_true]
    constructor
    · rintro ⟨sv, hm, hp⟩
      obtain ⟨k, hk⟩ := List.mem_iff_getElem?.mp hm
      simp only [Bool.and_eq_true, beq_iff_eq] at hp
      obtain rfl : k = n := (h.names k sv hk).symm.trans hp.1.1
      exact (h.live_iff hk).mpr hp.2
    · intro hl
      obtain ⟨sv, hk⟩ := get_of_lt (h.len ▸ lt_of_get hl)
      obtain ⟨hname, hboth, hlive⟩ := h.pointwise hk
      exact ⟨_, List.mem_of_getElem? hk, by simp [hname, hboth, hlive.mp hl]⟩
  rw [InprocReg.step_connect h.inv]
  simp only [step]
  cases hf : a.srvs.findIdx? (fun sv => sv.name == n && sv.listening && sv.fdOpen) with
  | none =>
    have hdead : ¬ b.phase[n]? = some .live := by simpa [hf] using key
    simp [hdead]
  | some s =>
    have hlive : b.phase[n]? = some .live := by simpa [hf] using key
    simp [hlive]

/-- **the two rendezvous agree on every connect, after every history** (`hnew`: every `new` succeeds) -/
theorem connect_same_answer (ops : List Op) (hnew : ∀ op ∈ ops, ∀ k, op ≠ .new (k + 1)) (n : Nat) :
    let p := runBoth (⟨[], [], 0⟩, ⟨[], [], false⟩) ops
    ((∃ c, (step p.1 (.connect n)).2 = .conn c) ↔ (InprocReg.step InprocReg.fixed p.2 (.connect n)).2 = .connected n) ∧
    ((step p.1 (.connect n)).2 = .err ↔ (InprocReg.step InprocReg.fixed p.2 (.connect n)).2 = .err) :=
  connect_agree (rel_run ops hnew rel_init) n

end RegRefine
