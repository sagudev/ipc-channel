/-! Facts about `List` alone, shared by all models: mostly lookups in `l ++ [y]` and `l.set i y`. -/
namespace ListLookup

variable {α : Type _} {l : List α} {x y : α} {i j : Nat}

theorem lt_of_get (h : l[i]? = some x) : i < l.length :=
  (List.getElem?_eq_some_iff.mp h).1

theorem get_of_lt (h : i < l.length) : ∃ x, l[i]? = some x := ⟨l[i], List.getElem?_eq_getElem h⟩

theorem get_append_left (h : l[i]? = some x) (l' : List α) : (l ++ l')[i]? = some x :=
  (List.getElem?_append_left (lt_of_get h)).trans h

theorem length_eq_of_isSome {β} {l' : List β} (h : ∀ d : Nat, (l'[d]?).isSome = (l[d]?).isSome) : l'.length = l.length := by
  have h1 := h l.length
  have h2 := h l'.length
  simp at h1 h2
  omega

theorem get_concat : (l ++ [y])[i]? = some x ↔ l[i]? = some x ∨ (i = l.length ∧ y = x) := by
  rcases Nat.lt_trichotomy i l.length with h | rfl | h
  · simp [List.getElem?_append_left h, Nat.ne_of_lt h]
  · simp
  · simp [Nat.le_of_lt h, Nat.ne_of_gt h, Nat.succ_le_of_lt h]

theorem get_set : (l.set i y)[j]? = some x ↔ (j = i ∧ i < l.length ∧ y = x) ∨ (j ≠ i ∧ l[j]? = some x) := by
  by_cases h : j = i
  · subst h; by_cases hl : j < l.length <;> simp [hl]
  · simp [h, Ne.symm h]

theorem get_set_of_ne (h : (l.set i y)[j]? = some x) (hne : x ≠ y) : j ≠ i ∧ l[j]? = some x :=
  (get_set.mp h).resolve_left fun e => hne e.2.2.symm

theorem get_concat_both {β} {l' : List β} {a : α} {b z : β} (hlen : l.length = l'.length)
    (h1 : (l ++ [a])[i]? = some x) (h2 : (l' ++ [b])[i]? = some z) :
    (l[i]? = some x ∧ l'[i]? = some z) ∨ (i = l.length ∧ x = a ∧ z = b) := by
  rcases get_concat.mp h1 with h1 | ⟨hd, e1⟩ <;> rcases get_concat.mp h2 with h2 | ⟨hd', e2⟩
  · exact .inl ⟨h1, h2⟩
  · exact absurd (lt_of_get h1) (by omega)
  · exact absurd (lt_of_get h2) (by omega)
  · exact .inr ⟨hd, e1.symm, e2.symm⟩

theorem get_pair {β} {l' : List β} (hlen : l.length = l'.length) (h : i < l.length) : ∃ x z, l[i]? = some x ∧ l'[i]? = some z :=
  ⟨l[i], l'[i]'(hlen ▸ h), List.getElem?_eq_getElem h, List.getElem?_eq_getElem _⟩

theorem get_both {β} {l' : List β} (hlen : l.length = l'.length) (i : Nat) :
    (l[i]? = none ∧ l'[i]? = none) ∨ ∃ x z, l[i]? = some x ∧ l'[i]? = some z := by
  by_cases h : i < l.length
  · exact .inr (get_pair hlen h)
  · exact .inl ⟨List.getElem?_eq_none (Nat.le_of_not_lt h), List.getElem?_eq_none (hlen ▸ Nat.le_of_not_lt h)⟩

theorem forall_get_concat' {β} {f : β → α} {Q : Nat → β → Prop} (hold : ∀ i z, l[i]? = some (f z) → Q i z)
    (hnew : ∀ z, y = f z → Q l.length z) : ∀ i z, (l ++ [y])[i]? = some (f z) → Q i z := by
  intro i z h
  rcases get_concat.mp h with h | ⟨rfl, e⟩
  · exact hold i z h
  · exact hnew z e

theorem forall_get_concat {P : Nat → α → Prop} (hold : ∀ i x, l[i]? = some x → P i x) (hnew : P l.length y) :
    ∀ i x, (l ++ [y])[i]? = some x → P i x :=
  forall_get_concat' (f := fun x => x) hold fun _ h => h ▸ hnew

theorem forall_get_set {P : Nat → α → Prop} (hold : ∀ j x, j ≠ i → l[j]? = some x → P j x) (hnew : P i y) :
    ∀ j x, (l.set i y)[j]? = some x → P j x := by
  intro j x h
  rcases get_set.mp h with ⟨rfl, -, rfl⟩ | ⟨hne, h⟩
  · exact hnew
  · exact hold j x hne h

theorem exists_get_set {P : α → Prop} (hi : l[i]? = some x) (hP : j = i → P x → P y) (h : ∃ z, l[j]? = some z ∧ P z) :
    ∃ z, (l.set i y)[j]? = some z ∧ P z := by
  obtain ⟨z, hz, hPz⟩ := h
  by_cases e : j = i
  · subst e; rw [hi] at hz; cases hz
    exact ⟨y, get_set.mpr (.inl ⟨rfl, lt_of_get hi, rfl⟩), hP rfl hPz⟩
  · exact ⟨z, get_set.mpr (.inr ⟨e, hz⟩), hPz⟩

theorem exists_get_set_self {P : α → Prop} (hi : l[i]? = some x) (hP : P y) : ∃ z, (l.set i y)[i]? = some z ∧ P z :=
  ⟨y, List.getElem?_set_self (lt_of_get hi), hP⟩

theorem mem_ite_cons {c : Prop} [Decidable c] {a : α} : x ∈ (if c then a :: l else l) ↔ x ∈ l ∨ (c ∧ x = a) := by
  split <;> simp [*, or_comm]

theorem filterMap_set_none {l : List (Option α)} {i : Nat} {a : α} (h : l[i]? = some (some a)) :
    (l.filterMap id).Perm (a :: (l.set i none).filterMap id) := by
  -- both sides are `filterMap` of `take i ++ _ :: drop (i + 1)`
  obtain ⟨hi, hget⟩ := List.getElem?_eq_some_iff.mp h
  rw [List.set_eq_take_append_cons_drop, if_pos hi]
  conv => lhs; rw [← List.take_append_drop i l, List.drop_eq_getElem_cons hi, hget]
  simp only [List.filterMap_append]
  exact List.perm_middle

theorem map_set_of_eq {β} (f : α → β) (h : l[i]? = some x) (hf : f y = f x) : (l.set i y).map f = l.map f := by
  apply List.ext_getElem?
  intro j
  rw [List.map_set, List.getElem?_set', hf]
  split
  · next hij => subst hij; simp [h]
  · rfl

theorem map_modify_of_eq {β} (f : α → β) {g : α → α} (hg : ∀ a, f (g a) = f a) (l : List α) (i : Nat) :
    (l.modify i g).map f = l.map f := by
  apply List.ext_getElem?
  intro j
  simp only [List.getElem?_map, List.getElem?_modify]
  cases l[j]? with
  | none => rfl
  | some a => simp only [Option.map_some]; split <;> simp [hg]

theorem foldl_fixed {β} {f : β → α → β} {b : β} (h : ∀ a, f b a = b) (l : List α) : l.foldl f b = b := by
  induction l with
  | nil => rfl
  | cons a l ih => rw [List.foldl_cons, h, ih]

theorem take_append_slice (d : List α) (a b : Nat) (h : a ≤ b) : d.take a ++ (d.take b).drop a = d.take b := by
  have : d.take a = (d.take b).take a := by
    rw [List.take_take]; congr 1; omega
  rw [this, List.take_append_drop]

theorem filter_sublist_filter (l : List α) {p q : α → Bool} (h : ∀ x, p x = true → q x = true) :
    (l.filter p).Sublist (l.filter q) := by
  have : l.filter p = (l.filter q).filter p := by
    rw [List.filter_filter]
    exact List.filter_congr fun x _ => by cases hp : p x <;> simp [h x, hp]
  rw [this]
  exact List.filter_sublist

theorem filter_append_append {p : α → Bool} {a b c : List α} (ha : ∀ x ∈ a, p x = true) (hb : ∀ x ∈ b, p x = false)
    (hc : ∀ x ∈ c, p x = true) : (a ++ b ++ c).filter p = a ++ c ∧ (a ++ b ++ c).filter (!p ·) = b := by
  constructor
  · rw [List.filter_append, List.filter_append, List.filter_eq_self.2 ha, List.filter_eq_nil_iff.2 fun x hx => by simp [hb x hx],
      List.filter_eq_self.2 hc, List.append_nil]
  · rw [List.filter_append, List.filter_append, List.filter_eq_nil_iff.2 fun x hx => by simp [ha x hx],
      List.filter_eq_self.2 fun x hx => by simp [hb x hx], List.filter_eq_nil_iff.2 fun x hx => by simp [hc x hx],
      List.nil_append, List.append_nil]

theorem nodup_concat {a : α} : (l ++ [a]).Nodup ↔ l.Nodup ∧ a ∉ l := by
  simp only [List.nodup_append, List.mem_singleton, forall_eq]
  constructor
  · intro ⟨hl, _, hne⟩
    exact ⟨hl, fun ha => hne a ha rfl⟩
  · intro ⟨hl, ha⟩
    exact ⟨hl, List.pairwise_singleton .., fun b hb e => ha (e ▸ hb)⟩

/-- handing out the counter `n` as the next identifier -/
theorem nodup_lt_concat {l : List Nat} {n : Nat} (hn : l.Nodup) (hb : ∀ i ∈ l, i < n) :
    (l ++ [n]).Nodup ∧ ∀ i ∈ l ++ [n], i < n + 1 := by
  constructor
  · exact nodup_concat.mpr ⟨hn, fun h => Nat.lt_irrefl _ (hb _ h)⟩
  · intro i hi
    rcases List.mem_append.mp hi with hi | hi
    · exact Nat.lt_succ_of_lt (hb i hi)
    · exact List.mem_singleton.mp hi ▸ Nat.lt_succ_self n

theorem inj_of_nodup_map {β} {f : α → β} (hn : (l.map f).Nodup) : ∀ ⦃x⦄, x ∈ l → ∀ ⦃y⦄, y ∈ l → f x = f y → x = y :=
  -- `≠` is symmetric, so `Pairwise` gives it in both directions; of an entry and itself the claim is `rfl`
  have h := List.pairwise_map.mp hn
  List.Pairwise.forall_of_forall_of_flip (fun _ _ _ => rfl) (h.imp fun hne e => absurd e hne) (h.imp fun hne e => absurd e.symm hne)

abbrev assoc {κ ν : Type _} [DecidableEq κ] (h : List (κ × ν)) (k : κ) : Option ν := (h.find? (·.1 = k)).map (·.2)

section assoc
variable {κ ν : Type _} [DecidableEq κ] {h : List (κ × ν)} {k : κ} {v : ν}

theorem assoc_append (h g : List (κ × ν)) (k : κ) : assoc (h ++ g) k = (assoc h k).or (assoc g k) := by
  simp [assoc, Option.map_or]

theorem mem_of_assoc (hl : assoc h k = some v) : (k, v) ∈ h := by
  obtain ⟨⟨a, b⟩, hf, rfl⟩ := Option.map_eq_some_iff.mp hl
  have hk := List.find?_some hf
  simp only [decide_eq_true_eq] at hk
  exact hk ▸ List.mem_of_find?_eq_some hf

theorem assoc_eq_none (hk : ∀ x ∈ h, x.1 ≠ k) : assoc h k = none := by
  rw [assoc, List.find?_eq_none.mpr fun x hx => by simpa using hk x hx]; rfl

theorem assoc_filter (h : List (κ × ν)) (k k' : κ) : assoc (h.filter (·.1 ≠ k')) k = if k = k' then none else assoc h k := by
  split
  · next e => exact assoc_eq_none fun x hx => e ▸ of_decide_eq_true (List.mem_filter.mp hx).2
  · next e =>
    rw [assoc, List.find?_filter]
    congr 2; funext x
    simp only [decide_eq_true_eq]
    -- an entry with key `k` passes the filter, as `k ≠ k'`
    exact decide_eq_decide.mpr ⟨And.right, fun hx => ⟨fun hx' => e (hx.symm.trans hx'), hx⟩⟩

end assoc

end ListLookup
