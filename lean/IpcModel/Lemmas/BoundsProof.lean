import IpcModel.Bounds
/-! The ghost-buffer model of `recv`: the reassembly loop keeps `len = written ≤ total ≤ cap` whatever sizes the follow-up packets
have (`follow_spec`). -/
namespace Bounds
open Gen

/- The three expressions `recv` computes its indices with, as the translator found them in the source: stated so that a change of
the source shows here, in one legible line, before it shows as a failed step inside a proof. -/
theorem recvEnd_eq (sys wp total : Nat) : recvEnd sys wp total = min (wp + fragmentSize sys) total := rfl
theorem recvSetLenAfter_eq (wp r ep : Nat) : recvSetLenAfter wp r ep = wp + r := rfl
theorem recvFirstLen_eq (n : Nat) : recvFirstLen n = n - 8 := rfl

/-- what C18 asks of an outcome of `recv`: no check of the ghost buffer failed, and a buffer that is returned has the announced
length, all of it written by the kernel, within its capacity -/
def Good (total : Nat) (o : Out) : Prop :=
  (∀ v, o ≠ .viol v) ∧ (∀ b', o = .ok b' → b'.len = total ∧ b'.written = total ∧ b'.len ≤ b'.cap)

theorem good_closed {t : Nat} : Good t .closed := ⟨nofun, nofun⟩
theorem good_block {t : Nat} : Good t .block := ⟨nofun, nofun⟩
theorem good_ok {t : Nat} {b : Buf} (h : b.len = t ∧ b.written = t ∧ b.len ≤ b.cap) : Good t (.ok b) :=
  ⟨nofun, fun _ hb => Out.ok.inj hb ▸ h⟩

theorem good_done {total : Nat} {b : Buf} (hlw : b.len = b.written) (hlt : b.len ≤ total) (htc : total ≤ b.cap)
    (h : ¬ b.len < total) : Good total (.ok b) :=
  have he := Nat.le_antisymm hlt (Nat.le_of_not_lt h)
  good_ok ⟨he, hlw ▸ he, Nat.le_trans hlt htc⟩

theorem follow_spec (sys total : Nat) (b : Buf) (pkts : List Nat) (eof : Bool)
    (hlw : b.len = b.written) (hlt : b.len ≤ total) (htc : total ≤ b.cap) :
    Good total (follow sys total b pkts eof) := by
  induction pkts generalizing b with
  | nil =>
    rw [follow, followWith]
    by_cases hl : b.len < total
    · rw [if_pos hl]
      cases eof
      · exact good_block
      · exact good_closed
    · rw [if_neg hl]
      exact good_done hlw hlt htc hl
  | cons p q ih =>
    rw [follow, followWith]
    -- `by_cases` and `rw` for every guard: `split` on a term of this size is slow to check
    by_cases hl : b.len < total
    · have hep : b.len ≤ recvEnd sys b.len total ∧ recvEnd sys b.len total ≤ total :=
        ⟨Nat.le_min.2 ⟨Nat.le_add_right .., Nat.le_of_lt hl⟩, Nat.min_le_right ..⟩
      rw [if_pos hl]
      dsimp only   -- the `let`s of `followWith`
      generalize recvEnd sys b.len total = ep at hep ⊢
      have hcap := Nat.not_lt.2 (Nat.le_trans hep.2 htc)
      -- the guards in order: `set_len(ep)` within the capacity, `wp ≤ ep`, the kernel's write `[wp, wp + (ep - wp))` inside
      rw [if_neg hcap, if_neg (Nat.not_lt.2 hep.1), Nat.add_sub_cancel' hep.1, if_neg hcap]
      by_cases hz : p = 0 ∨ ep - b.len = 0
      · rw [if_pos hz]
        exact good_closed
      · have hr : b.len + min p (ep - b.len) ≤ total := by omega
        -- then the new length `wp + r`: nothing unwritten exposed, and within the capacity
        rw [if_neg hz, recvSetLenAfter_eq, if_neg (Nat.lt_irrefl _), if_neg (Nat.not_lt.2 (Nat.le_trans hr htc))]
        exact ih _ rfl hr htc
    · rw [if_neg hl]
      exact good_done hlw hlt htc hl

end Bounds
