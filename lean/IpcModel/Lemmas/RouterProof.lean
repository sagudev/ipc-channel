import IpcModel.Router
import IpcModel.Lemmas.ListLookup
/-! The repaired router thread (`Router.fixed`), through the equations of `step`. -/
namespace Router
open ListLookup

theorem lookup_append (h g : List (Nat × Nat)) (id : Nat) : lookup (h ++ g) id = (lookup h id).or (lookup g id) :=
  assoc_append h g id

theorem lookup_filter {h : List (Nat × Nat)} {id id' : Nat} :
    lookup (h.filter (·.1 ≠ id)) id' = if id' = id then none else lookup h id' :=
  assoc_filter h id' id

theorem lookup_snoc (h : List (Nat × Nat)) (n r id : Nat) :
    lookup (h ++ [(n, r)]) id = (lookup h id).or (if n = id then some r else none) := by
  rw [lookup_append]; congr 1
  simp [lookup]

theorem run_cons (V : Variant) (st : St) (e : Ev) (es : List Ev) : run V st (e :: es) = run V (step V st e) es := rfl

theorem step_stopped (V : Variant) (st : St) (e : Ev) (h : st.stopped = true) : step V st e = st := by
  unfold step; simp [h]
theorem run_stopped (V : Variant) (st : St) (es : List Ev) (h : st.stopped = true) : run V st es = st :=
  foldl_fixed (fun e => step_stopped V st e h) es

theorem step_wake_fixed {st : St} (hs : st.stopped = false) : step fixed st .wake = drainQ st st.msgq := by
  unfold step; simp [hs, fixed]

theorem step_wakeClosed_fixed {st : St} (hs : st.stopped = false) :
    step fixed st .wakeClosed = { dropAll st with log := (dropAll st).log ++ [.stop], stopped := true } := by
  unfold step; simp [hs, fixed]

theorem step_msg_some (V : Variant) {st : St} {id r : Nat} (tag : Nat) (hs : st.stopped = false) (hl : lookup st.handlers id = some r) :
    step V st (.msg id tag) = { st with log := st.log ++ [.invoke r tag] } := by
  unfold step; simp [hs, hl]

theorem step_closed_some (V : Variant) {st : St} {id r : Nat} (hs : st.stopped = false) (hl : lookup st.handlers id = some r) :
    step V st (.closed id) = { st with handlers := st.handlers.filter (·.1 ≠ id), log := st.log ++ [.dropH r] } := by
  unfold step; simp [hs, hl]

theorem step_badFwd_some {st : St} {id r : Nat} (hs : st.stopped = false) (hl : lookup st.handlers id = some r) :
    step fixed st (.badFwd id) = st := by
  unfold step; simp [hs, hl, fixed]

/-- an event for a receiver-set id that is not registered: `unwrap` on `None` -/
theorem step_not_ok (V : Variant) {st : St} {e : Ev} (hs : st.stopped = false) (h : ¬ okEv st e) :
    step V st e = { st with log := st.log ++ [.panic] } := by
  cases e <;> simp only [okEv, not_true_eq_false, Option.not_isSome_iff_eq_none] at h
  -- `wake`, `wakeClosed` are always in order (`h : False`); for the others `h : lookup st.handlers id = none`
  all_goals unfold step; simp [hs, h]

theorem drainQ_noPanic {q : List RMsg} {st : St} (hn : noPanic st) : noPanic (drainQ st q) := by
  induction q generalizing st with
  | nil => exact hn
  | cons m q ih =>
    cases m with
    | addRoute r => exact ih hn
    | shutdown c => simpa [drainQ, noPanic, dropAll] using hn

theorem step_noPanic (st : St) (e : Ev) (hn : noPanic st) (hok : st.stopped = true ∨ okEv st e) :
    noPanic (step fixed st e) := by
  cases hs : st.stopped with
  | true => rwa [step_stopped fixed st e hs]
  | false =>
    have hok := hok.resolve_left (by simp [hs])
    cases e with
    | wake => rw [step_wake_fixed hs]; exact drainQ_noPanic hn
    | wakeClosed => rw [step_wakeClosed_fixed hs]; simpa [noPanic, dropAll] using hn
    | msg id tag =>
      obtain ⟨r, hl⟩ := Option.isSome_iff_exists.mp hok
      rw [step_msg_some fixed tag hs hl]; simpa [noPanic] using hn
    | closed id =>
      obtain ⟨r, hl⟩ := Option.isSome_iff_exists.mp hok
      rw [step_closed_some fixed hs hl]; simpa [noPanic] using hn
    | badFwd id =>
      obtain ⟨r, hl⟩ := Option.isSome_iff_exists.mp hok
      rwa [step_badFwd_some hs hl]

theorem run_noPanic (st : St) (es : List Ev) (hn : noPanic st) (hok : okRun fixed st es) : noPanic (run fixed st es) := by
  induction es generalizing st with
  | nil => exact hn
  | cons e es ih => exact ih (step fixed st e) (step_noPanic st e hn hok.1) hok.2

theorem shutdown_stops (st : St) (c : Nat) (q : List RMsg) (es : List Ev)
    (hs : st.stopped = false) (hq : st.msgq = .shutdown c :: q) :
    (run fixed st (.wake :: es)).handlers = [] ∧ (run fixed st (.wake :: es)).stopped = true ∧
    (run fixed st (.wake :: es)).log = st.log ++ st.handlers.map (fun p => Eff.dropH p.2) ++ [.ack c, .stop] := by
  rw [run_cons, step_wake_fixed hs, hq, run_stopped _ _ es rfl]
  exact ⟨rfl, rfl, rfl⟩

theorem wakeClosed_stops (st : St) (es : List Ev) (hs : st.stopped = false) :
    (run fixed st (.wakeClosed :: es)).handlers = [] ∧ (run fixed st (.wakeClosed :: es)).stopped = true ∧
    (run fixed st (.wakeClosed :: es)).log = st.log ++ st.handlers.map (fun p => Eff.dropH p.2) ++ [.stop] := by
  rw [run_cons, step_wakeClosed_fixed hs, run_stopped _ _ es rfl]
  exact ⟨rfl, rfl, rfl⟩

theorem World.op_stopped (V : Variant) (w : World) (o : Op) (h : w.st.stopped = true) :
    (w.op V o).st.log = w.st.log ∧ (w.op V o).st.handlers = w.st.handlers ∧ (w.op V o).st.stopped = true := by
  -- every operation steps the router at most once, from `w.st` with more queued, and under one guard (an `if` or a `match`)
  have hq : ∀ q e, step V { w.st with msgq := q } e = { w.st with msgq := q } := fun q e => step_stopped V _ e h
  cases o <;> simp only [World.op, hq]
  all_goals split <;> exact ⟨rfl, rfl, h⟩

theorem World.ops_stopped (V : Variant) (ops : List Op) (w : World) (h : w.st.stopped = true) :
    (ops.foldl (World.op V) w).st.log = w.st.log ∧ (ops.foldl (World.op V) w).st.handlers = w.st.handlers := by
  induction ops generalizing w with
  | nil => exact ⟨rfl, rfl⟩
  | cons o ops ih =>
    obtain ⟨h1, h2, h3⟩ := World.op_stopped V w o h
    exact ⟨(ih _ h3).1.trans h1, (ih _ h3).2.trans h2⟩

def routeOf (st : St) (id : Nat) : Option Nat := lookup st.handlers id

theorem step_msg (st : St) (id tag r : Nat) (hs : st.stopped = false) (hr : routeOf st id = some r) :
    (step fixed st (.msg id tag)).log = st.log ++ [.invoke r tag] ∧ (step fixed st (.msg id tag)).handlers = st.handlers := by
  rw [step_msg_some fixed tag hs hr]; exact ⟨rfl, rfl⟩

theorem step_closed (st : St) (id r : Nat) (hs : st.stopped = false) (hr : routeOf st id = some r) :
    (step fixed st (.closed id)).log = st.log ++ [.dropH r] ∧
    routeOf (step fixed st (.closed id)) id = none ∧
    ∀ id', id' ≠ id → routeOf (step fixed st (.closed id)) id' = routeOf st id' := by
  rw [step_closed_some fixed hs hr]
  exact ⟨rfl, lookup_filter.trans (if_pos rfl), fun id' hne => lookup_filter.trans (if_neg hne)⟩

def Fresh (st : St) : Prop := ∀ p, p ∈ st.handlers → p.1 < st.nextId

theorem Fresh.add {st : St} (h : Fresh st) (r : Nat) :
    Fresh { st with handlers := st.handlers ++ [(st.nextId, r)], nextId := st.nextId + 1 } := by
  intro p hp
  rcases List.mem_append.mp hp with hp | hp
  · exact Nat.lt_succ_of_lt (h p hp)
  · rw [List.mem_singleton.mp hp]; exact Nat.lt_succ_self _

theorem Fresh.lookup_nextId {st : St} (h : Fresh st) : lookup st.handlers st.nextId = none :=
  assoc_eq_none fun p hp => Nat.ne_of_lt (h p hp)

def NoShutdown (q : List RMsg) : Prop := ∀ m ∈ q, ∀ c, m ≠ .shutdown c

theorem noShutdown_cons {m : RMsg} {q : List RMsg} : NoShutdown (m :: q) ↔ (∀ c, m ≠ .shutdown c) ∧ NoShutdown q :=
  List.forall_mem_cons

theorem drainQ_lookup (q : List RMsg) (st : St) (hns : NoShutdown q) {id : Nat} (hid : id < st.nextId) :
    lookup (drainQ st q).handlers id = lookup st.handlers id := by
  induction q generalizing st with
  | nil => rfl
  | cons m q ih =>
    obtain ⟨hm, hq⟩ := noShutdown_cons.mp hns
    cases m with
    | shutdown c => exact absurd rfl (hm c)
    | addRoute r =>
      refine (ih _ hq (Nat.lt_succ_of_lt hid)).trans ?_
      simp only [lookup_snoc, if_neg (Nat.ne_of_gt hid), Option.or_none]

theorem step_add_preserves (st : St) (r : Nat) (q : List RMsg) (hs : st.stopped = false) (hq : st.msgq = .addRoute r :: q)
    (hns : ∀ m ∈ q, ∀ c, m ≠ .shutdown c)
    (hfresh : ∀ p, p ∈ st.handlers → p.1 < st.nextId) (id : Nat) (hid : id < st.nextId) :
    routeOf (step fixed st .wake) id = routeOf st id ∧ routeOf (step fixed st .wake) st.nextId = some r := by
  rw [step_wake_fixed hs, hq]
  refine ⟨drainQ_lookup (.addRoute r :: q) st (noShutdown_cons.mpr ⟨nofun, hns⟩) hid, (drainQ_lookup q _ hns (Nat.lt_succ_self _)).trans ?_⟩
  simp only [lookup_snoc, Fresh.lookup_nextId hfresh, if_pos, Option.none_or]

theorem drainQ_fresh {q : List RMsg} {st : St} (h : Fresh st) : Fresh (drainQ st q) := by
  induction q generalizing st with
  | nil => exact h
  | cons m q ih =>
    cases m with
    | addRoute r => exact ih (h.add r)
    | shutdown c => exact fun _ hp => nomatch hp

theorem step_fresh (V : Variant) (st : St) (e : Ev) (h : Fresh st) : Fresh (step V st e) := by
  -- the arms of `step` in the order written: 1 stopped; 2 wake, repaired; 3–7 wake, legacy (nothing queued, `addRoute`,
  -- `shutdown`: keeps running / acknowledges first / drops first); 8–9 wakeClosed (panics / stops); then registered, not
  -- registered for 10–11 msg, 12–13 closed, 14–16 badFwd (registered: panics / drops the message)
  fun_cases step V st e
  case case2 => exact drainQ_fresh h
  case case4 => exact h.add _
  case case6 | case7 | case9 => exact fun _ hp => nomatch hp      -- the router stops: no handler left
  case case12 => exact fun p hp => h p (List.mem_filter.mp hp).1
  all_goals exact h

theorem run_fresh (V : Variant) (es : List Ev) (st : St) (h : Fresh st) : Fresh (run V st es) :=
  List.foldlRecOn es (step V) h fun st h e _ => step_fresh V st e h

end Router
