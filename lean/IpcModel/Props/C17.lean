import IpcModel.Lemmas.RouterProof
import IpcModel.GenRouter
import IpcModel.Lemmas.RouterSysProof
/-!
# C17 — stopping a router, by shutdown or proxy drop, is clean and complete

The router thread is `run fixed st events`, where `events` is the flattened stream of `select()` results it consumes.
Theorems quantify over every state `st` (any number of live routes, anything queued) and every continuation `es` of the
event stream (further traffic on old routes, closures, wake-ups …).

The closed system — client threads calling `add_route` / `shutdown` (any number of times, concurrently), the proxy mutex,
the crossbeam queue, the wake-up channel, the router thread and callbacks that re-enter `add_route` on the router thread
— is the small-step model `RSys`; over all its interleavings: `C17_returns_stopped` (a `shutdown()` call, first or late,
returns only in states where the router has stopped and holds no callback), `C17_stopped_forever`, and `C17_no_deadlock`
(no reachable state in which an unfinished call has no enabled step).  The code before the fix (`RSys.legacy`: waiting for
the acknowledgement while holding the mutex) has a reachable stuck state — exhibited below.
Not reached by a theorem: fairness of the OS scheduler (that enabled steps are eventually taken).
-/
namespace C17
open Router

/-- **C17_stopped (shutdown)** — when the router processes `Shutdown`, every handler is dropped (one `dropH` per registered
route, logged *before* the acknowledgement), no handler remains, and whatever arrives afterwards has no effect at all:
no callback is ever invoked again. -/
theorem C17_stopped_shutdown (st : St) (c : Nat) (q : List RMsg) (es : List Ev)
    (hs : st.stopped = false) (hq : st.msgq = .shutdown c :: q) :
    (run fixed st (.wake :: es)).handlers = [] ∧ (run fixed st (.wake :: es)).stopped = true ∧
    (run fixed st (.wake :: es)).log = st.log ++ st.handlers.map (fun p => Eff.dropH p.2) ++ [.ack c, .stop] :=
  shutdown_stops st c q es hs hq

/-- **C17_stopped (proxy drop)** — closure of the wake-up channel stops the router the same way, without a panic. -/
theorem C17_stopped_proxy_drop (st : St) (es : List Ev) (hs : st.stopped = false) :
    (run fixed st (.wakeClosed :: es)).handlers = [] ∧ (run fixed st (.wakeClosed :: es)).stopped = true ∧
    (run fixed st (.wakeClosed :: es)).log = st.log ++ st.handlers.map (fun p => Eff.dropH p.2) ++ [.stop] :=
  wakeClosed_stops st es hs

/-- **C17_no_panic** — on every event stream that respects the receiver-set contract (`okRun`, from C06: a message or closure
is reported only for a registered id), the router thread never panics; a wake-up with nothing queued is allowed. -/
theorem C17_no_panic (es : List Ev) (hok : okRun fixed Router.init es) : noPanic (run fixed Router.init es) :=
  run_noPanic Router.init es nofun hok

/-- **C17_late** — a route offered after shutdown was requested (or after the proxy is gone) never reaches the router:
receiver and callback are dropped by the caller, nothing is invoked. -/
theorem C17_late (w : World) (r : Nat) (h : w.flag = true ∨ w.proxyAlive = false) :
    (World.op fixed w (.addRoute r)).st = w.st ∧ (World.op fixed w (.addRoute r)).refused = w.refused ++ [r] := by
  rcases h with h | h <;> simp [World.op, h]

/-- **C17_idempotent** — a second `shutdown` request does not reach the router. -/
theorem C17_idempotent (w : World) (h : w.flag = true) : World.op fixed w .shutdown = w := by
  simp [World.op, h]

/-- **C17_shutdown_sequential** — for a sequential client: after `shutdown` the router is stopped with no handler left,
whatever routes and traffic came before, and every later operation leaves the router's log unchanged. -/
theorem C17_shutdown_sequential (w : World) (hf : w.flag = false) (hp : w.proxyAlive = true) (hq : w.st.msgq = [])
    (hs : w.st.stopped = false) (later : List Op) :
    let w' := World.op fixed w .shutdown
    w'.st.stopped = true ∧ w'.st.handlers = [] ∧
    (later.foldl (World.op fixed) w').st.log = w'.st.log ∧ (later.foldl (World.op fixed) w').st.handlers = [] := by
  intro w'
  have h1 : w'.st = step fixed { w.st with msgq := [.shutdown 0] } .wake := by
    simp [w', World.op, hf, hp, hq]
  obtain ⟨h2, h3, _⟩ := shutdown_stops { w.st with msgq := [.shutdown 0] } 0 [] [] hs rfl
  rw [run_cons, ← h1] at h2 h3
  have k := World.ops_stopped fixed later w' h3
  exact ⟨h3, h2, k.1, k.2.trans h2⟩

/-! ### sensitivity: the pre-fix router -/
/-- D6: after the acknowledgement the legacy router still holds and invokes the callback -/
example : (run legacy ⟨[(1, 7)], 2, [.shutdown 0], false, []⟩ [.wake, .msg 1 42]).log = [.ack 0, .invoke 7 42] := by decide +kernel
/-- D7: dropping the proxy panics the legacy router thread -/
example : (run legacy ⟨[(1, 7)], 2, [], false, []⟩ [.wakeClosed]).log = [.panic] := by decide +kernel
/-- D19: a message that does not decode, on a crossbeam-forwarding route, panics the legacy router thread (and every other route with it) -/
example : (run legacy ⟨[(1, 7), (2, 8)], 3, [], false, []⟩ [.badFwd 1, .msg 2 5]).log = [.panic, .invoke 8 5] ∧
    (run fixed ⟨[(1, 7), (2, 8)], 3, [], false, []⟩ [.badFwd 1, .msg 2 5]).log = [.invoke 8 5] := by decide +kernel
/-- repaired, same inputs -/
example : (run fixed ⟨[(1, 7)], 2, [.shutdown 0], false, []⟩ [.wake, .msg 1 42]).log = [.dropH 7, .ack 0, .stop] := by decide +kernel
example : (run fixed ⟨[(1, 7)], 2, [], false, []⟩ [.wakeClosed]).log = [.dropH 7, .stop] := by decide +kernel

/-! ### closed system: proxy, mutex, router thread, client threads, re-entrant callbacks -/

/-- the invariant holds initially (any client programs, any registered routes, any pending traffic) and along every run -/
theorem C17_sys_inv (threads : List (List RSys.Call)) (routes : List Nat) (traffic : List (Nat × Nat)) (as : List RSys.Act)
    (st' : RSys.St) (h : RSys.run RSys.fixed (RSys.init threads routes traffic) as = some st') : RSys.Inv st' :=
  RSys.inv_run _ st' as (RSys.inv_init threads routes traffic) h

/-- **C17_returns_stopped** — every `shutdown()` call, first or late, from any thread, returns only when the router thread
has stopped and every callback has been dropped. -/
theorem C17_returns_stopped (st st' : RSys.St) (i : Nat) (hi : RSys.Inv st) (hw : (st.threads i).ph = .waiting)
    (h : RSys.step RSys.fixed st (.thread i) = some st') :
    st.rpc = .stopped ∧ st.handlers = [] ∧ st'.rpc = .stopped ∧ st'.handlers = [] :=
  RSys.shutdown_returns_stopped _ st st' i hi hw h

/-- **C17_stopped_forever** — after the stop no callback is invoked and no route is registered, whatever the other threads do -/
theorem C17_stopped_forever (st st' : RSys.St) (a : RSys.Act) (hs : st.rpc = .stopped) (hh : st.handlers = [])
    (h : RSys.step RSys.fixed st a = some st') : st'.rpc = .stopped ∧ st'.handlers = [] ∧ st'.invokedLog = st.invokedLog :=
  RSys.stopped_forever RSys.fixed st st' a hs hh h

/-- **C17_no_deadlock** — in every reachable state in which some proxy call is unfinished, some step is enabled. -/
theorem C17_no_deadlock (st : RSys.St) (hi : RSys.Inv st) (hnf : ¬ RSys.Finished st) : ∃ a st', RSys.step RSys.fixed st a = some st' :=
  RSys.no_stuck st hi hnf

/-- **C17_wake_channel_bounded** — with coalesced wake-ups (a request sends a wake-up only if none is pending; the router clears
the flag before it serves the queue) the wake-up channel never holds more than one message, in every reachable state of
every variant: no `send` on it can ever block, whoever issues it — in particular not the router thread itself when a
callback registers routes.  (Before this repair every request sent its own wake-up: 278 registrations made by callbacks
within one `select` batch filled the channel, and the router thread blocked on its own wake-up while holding the proxy
mutex — reproduced on the real crate, see DESIGN.md §12.5 D15; `router --mode selfwake` is the regression case.) -/
theorem C17_wake_channel_bounded (V : RSys.Variant) (threads : List (List RSys.Call)) (routes : List Nat) (traffic : List (Nat × Nat))
    (as : List RSys.Act) (st' : RSys.St) (h : RSys.run V (RSys.init threads routes traffic) as = some st') : st'.wakeq ≤ 1 :=
  (RSys.winv_run V _ st' as (RSys.winv_init threads routes traffic) h).atMostOne

/-- sensitivity — the code before the fix: a callback re-entering `add_route` on the router thread while another thread waits
for the acknowledgement holding the mutex: after these three steps nothing is enabled and two calls are unfinished -/
def legacyCfg : RSys.St := RSys.init [[.shutdown], [.shutdown]] [1] [(1, 1)]
example : (RSys.run RSys.legacy legacyCfg [.deliver 0, .thread 1, .thread 1]).map (fun st =>
      (RSys.step RSys.legacy st (.thread 0)).isNone && (RSys.step RSys.legacy st (.thread 1)).isNone &&
      (RSys.step RSys.legacy st .router).isNone && (RSys.step RSys.legacy st (.deliver 0)).isNone &&
      !(st.threads 0).todo.isEmpty && !(st.threads 1).todo.isEmpty) = some true := by decide +kernel
/-- the same schedule in the repaired system is not stuck: the router thread gets the mutex -/
example : (RSys.run RSys.fixed legacyCfg [.deliver 0, .thread 1, .thread 1]).map (fun st => (RSys.step RSys.fixed st .router).isSome) = some true := by decide +kernel

/-- the event loop of the real `Router::run` distinguishes exactly the four kinds of select result the model's `step` has
(wake-up message, routed message, wake-up channel closed, routed channel closed) — regenerated from `src/router.rs` -/
theorem C17_shape : Gen.routerRunArms = 4 := by decide

/-- **C17_code_variant** — the source as it is now is the variant the theorems of this file are about: a wake-up clears the flag and
then serves the whole queue; the `Shutdown` arm drops the handlers, then acknowledges, then ends the thread; a closed wake-up
channel has its own arm; `shutdown` awaits the acknowledgement after the locked block; `add_route` locks, checks for a late
offer, queues the request and wakes the router, in this order; wake-ups are coalesced through the shared flag. -/
theorem C17_code_variant : Router.codeVariant = Router.fixed ∧ RSys.codeVariant = RSys.fixed ∧ Gen.shape_shutdownOrder = true ∧
    Gen.shape_shutdownIdempotent = true ∧ Gen.shape_addRouteOrder = true ∧ Gen.shape_wakeCoalesced = true := by decide

end C17
