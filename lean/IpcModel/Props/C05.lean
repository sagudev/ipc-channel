import IpcModel.Lemmas.ShmMany
import IpcModel.Props.C15
/-!
# C05 — shared-memory regions arrive with identical contents

Model `Shm`: memory objects, descriptors and mappings of a small kernel; `OsIpcSharedMemory` handles `{ptr, length, fd}`
built by `from_bytes` / `from_byte`, `clone` (dup + map the same length), the receiving side of a transfer (`from_fd`: a new
descriptor of the same object installed by SCM_RIGHTS, length from `fstat`) and `drop` (munmap own mapping, close own
descriptor).  The size given to the memory object (`Gen.shmObjectSize`) is regenerated from `BackingStore::new` /
`create_shmem` on every run; the theorems need it to be the requested length, which `rfl` re-checks.

A *send* of region `i` is the history `[clone i, flight (the clone), drop (the clone), recvFlight]` (the message owns a
clone whose descriptor is put in flight by `sendmsg`, the clone dies when `send` returns, the receiver builds its handle
from the in-flight descriptor — the kernel keeps the object alive meanwhile); all histories of the seven operations are
covered, so "readable after the sender's copies and the carrying channel were dropped" is the
statement for histories that end with those drops.

Not reached by a theorem: that the kernel's `mmap` of a `ftruncate`d object really shows the bytes written through
another mapping (kernel model; exercised by the harness in clones, across a transfer and in a spawned process).
-/
namespace C05
open Shm

theorem size_is_length : ∀ n, Gen.shmObjectSize n = n := fun _ => rfl

/-- **C05_contents** — after any history, every live handle (original, clone, or copy obtained through a transfer, at any
depth) reads exactly the bytes of the region it stems from, and reports exactly that length. -/
theorem C05_contents (ops : List Op) (i : Nat) (h : Handle) (src : List Nat)
    (hl : (run ops).hs[i]? = some (some (h, src))) :
    deref (run ops).k h = .bytes src ∧ h.length = src.length :=
  contents (inv_run ops size_is_length) hl

/-- **C05_lifetime_all** — dropping any number of other copies, in any order and with repeats (all the sender's copies,
every clone, the handles that travelled in the carrying channel), leaves a handle readable with its own bytes. -/
theorem C05_lifetime_all (ops : List Op) (ds : List Nat) (j : Nat) (h : Handle) (src : List Nat) (hj : j ∉ ds)
    (hl : (run ops).hs[j]? = some (some (h, src))) :
    (run (ops ++ ds.map Op.drop)).hs[j]? = some (some (h, src)) ∧ deref (run (ops ++ ds.map Op.drop)).k h = .bytes src := by
  have hl' : (run (ops ++ ds.map Op.drop)).hs[j]? = some (some (h, src)) := by
    rw [run_append]
    refine persist _ hl fun op hm e => ?_
    obtain ⟨d, hd, rfl⟩ := List.mem_map.mp hm
    exact hj (Op.drop.inj e ▸ hd)
  exact ⟨hl', (C05_contents _ j h src hl').1⟩

/-- **C05_lifetime** — dropping any other copy (the sender's, a clone, the one that travelled) leaves a handle readable. -/
theorem C05_lifetime (ops : List Op) (i j : Nat) (h : Handle) (src : List Nat) (hij : i ≠ j)
    (hl : (run ops).hs[j]? = some (some (h, src))) :
    deref (run (ops ++ [.drop i])).k h = .bytes src :=
  (C05_lifetime_all ops [i] j h src (fun hm => hij (List.mem_singleton.mp hm).symm) hl).2

/-- **C05_zero** — no history ever maps or unmaps zero bytes: a zero-length region never reaches `mmap`/`munmap`
(and by `C05_contents` it reads as the empty slice, through the null-pointer branch of `deref`). -/
theorem C05_zero (ops : List Op) : ∀ c ∈ (run ops).k.calls, c ≠ Call.mmap 0 ∧ c ≠ Call.munmap 0 :=
  calls_run ops size_is_length

theorem C05_zero_reads_empty (ops : List Op) (i : Nat) (h : Handle)
    (hl : (run ops).hs[i]? = some (some (h, []))) : h.ptr = none ∧ h.length = 0 ∧ deref (run ops).k h = .bytes [] := by
  have hk := (inv_run ops size_is_length).hok hl
  refine ⟨?_, hk.length_eq, (C05_contents ops i h [] hl).1⟩
  rcases hk.ptr_cases with ⟨hp, _⟩ | ⟨_, _, _, hne, _⟩
  · exact hp
  · exact absurd hk.length_eq hne

/-- **C05_many_after_drops** — several regions in one message: after any history (with nothing else in flight), putting the
descriptors of the live regions `ps` (index, bytes it stems from) in flight, then any drops (the message's own clones die when
`send` returns, the sender may drop every copy it has, the handles in `ds` are arbitrary and may include the regions sent),
then receiving as many descriptors yields exactly `ps.length` new handles, in the order of the regions in the message, each
reading exactly its own region's bytes with its own length (clones of one region, zero-length regions and repeated indices
included): the in-flight descriptors keep the memory objects alive. -/
theorem C05_many_after_drops (ops : List Op) (ps : List (Nat × List Nat)) (ds : List Nat) (hnf : (run ops).flight = [])
    (hlive : ∀ p ∈ ps, ∃ h, (run ops).hs[p.1]? = some (some (h, p.2))) :
    let ops' := ops ++ ps.map flightOf ++ ds.map Op.drop ++ List.replicate ps.length Op.recvFlight
    (run ops').hs.length = (run ops).hs.length + ps.length ∧ (run ops').flight = [] ∧
    ∀ k p, ps[k]? = some p → ∃ h', (run ops').hs[(run ops).hs.length + k]? = some (some (h', p.2)) ∧
      deref (run ops').k h' = .bytes p.2 ∧ h'.length = p.2.length := by
  intro ops'
  obtain ⟨pre, hpre, hs, hfl⟩ := message Prod.fst Prod.snd ps (run ops) (inv_run ops size_is_length) ds hnf hlive
  rw [← run_append, ← run_append, ← run_append] at hs hfl
  have := arrived (inv_run ops' size_is_length) hpre hs
  exact ⟨this.1, hfl, this.2⟩

/-- **C05_many_in_order** — the same with no drops between `sendmsg` and the receipt: the regions of one message come out
as `ps.length` new handles in message order, each reading exactly its own region's bytes with its own length. -/
theorem C05_many_in_order (ops : List Op) (ps : List (Nat × List Nat)) (hnf : (run ops).flight = [])
    (hlive : ∀ p ∈ ps, ∃ h, (run ops).hs[p.1]? = some (some (h, p.2))) :
    let ops' := ops ++ ps.map flightOf ++ List.replicate ps.length Op.recvFlight
    (run ops').hs.length = (run ops).hs.length + ps.length ∧ (run ops').flight = [] ∧
    ∀ k p, ps[k]? = some p → ∃ h', (run ops').hs[(run ops).hs.length + k]? = some (some (h', p.2)) ∧
      deref (run ops').k h' = .bytes p.2 ∧ h'.length = p.2.length := by
  have := C05_many_after_drops ops ps [] hnf hlive
  rwa [List.map_nil, List.append_nil] at this

/-- **C05_send_literal** — the history the library really performs for one message with the regions `ps`: `send` clones every
region into the message (`cl…`), `sendmsg` puts the clones' descriptors in flight (`fl…`), the clones die when `send`
returns (`dr…`), the receiver turns the descriptors into handles (`rf…`).  The `ps.length` handles that come out stand in
message order and each reads its own region's bytes with its own length.  (This is the operation sequence the `shm`
scenario logs for every message, so the driver replays exactly the histories this theorem quantifies over.) -/
theorem C05_send_literal (ops : List Op) (ps : List (Nat × List Nat)) (hnf : (run ops).flight = [])
    (hlive : ∀ p ∈ ps, ∃ h, (run ops).hs[p.1]? = some (some (h, p.2))) :
    let base := (run ops).hs.length
    let cl := (List.range ps.length).map (base + ·)
    let ops' := ops ++ ps.map cloneOf ++ cl.map Op.flight ++ cl.map Op.drop ++ List.replicate ps.length Op.recvFlight
    (run ops').hs.length = base + ps.length + ps.length ∧ (run ops').flight = [] ∧
    ∀ k p, ps[k]? = some p → ∃ h', (run ops').hs[base + ps.length + k]? = some (some (h', p.2)) ∧
      deref (run ops').k h' = .bytes p.2 ∧ h'.length = p.2.length := by
  intro base cl ops'
  obtain ⟨pre, hpre, hs, hfl⟩ := send_literal (run ops) (inv_run ops size_is_length) ps cl hnf hlive
  rw [← run_append, ← run_append, ← run_append, ← run_append] at hs hfl
  have := arrived (inv_run ops' size_is_length) hpre hs
  exact ⟨this.1, hfl, this.2⟩

/-- **C05_order** — several regions in one message arrive in order, after the channels and before the dedicated socket
(descriptor order of the message; proved in the control-message model). -/
theorem C05_order (sys len : Nat) (faults : List Frag.Fault) (chans shms : List Cmsg.Fd) (ded : Cmsg.Fd)
    (hc : ∀ c ∈ chans, c.sock = true) (hs : ∀ s ∈ shms, s.sock = false) (hd : ded.sock = true)
    (hok : (Cmsg.osSend sys len (chans.length + shms.length) faults).1 = .ok) :
    Cmsg.recvSplit (Cmsg.sendFds chans shms (if Cmsg.isFrag (Cmsg.osSend sys len (chans.length + shms.length) faults).2 then some ded else none))
        (Cmsg.isFrag (Cmsg.osSend sys len (chans.length + shms.length) faults).2)
      = some (chans, shms, if Cmsg.isFrag (Cmsg.osSend sys len (chans.length + shms.length) faults).2 then some ded else none) :=
  (C15.C15_accept_all sys len faults chans shms ded hc hs hd hok).2

/-- shape facts regenerated from the source -/
theorem C05_shape : Gen.shape_mapZeroIsNull = true ∧ Gen.shape_derefNullIsEmpty = true := by decide

/-! non-vacuity: a concrete history with a clone, a transfer and drops of the originals -/
def demo : List Op := [.fromBytes [1, 2, 3], .fromByte 7 0, .clone 0, .flight 2, .drop 2, .drop 0, .recvFlight, .recvCopy 1]
example : ((run demo).hs[3]?.bind id).map (fun p => (deref (run demo).k p.1, p.1.length)) = some (.bytes [1, 2, 3], 3) := by decide +kernel
example : ((run demo).hs[4]?.bind id).map (fun p => (deref (run demo).k p.1, p.1.ptr)) = some (.bytes [], none) := by decide +kernel
example : (run demo).k.calls = [.create 3, .mmap 3, .create 0, .dup, .mmap 3, .munmap 3, .close, .munmap 3, .close, .fstat, .mmap 3, .fstat] := by decide +kernel

/-! sensitivity: if the memory object were larger than the requested length (say rounded up), the receiving side —
which sizes its mapping with `fstat` — would report the object's size, not the region's -/
example : (mapFile ⟨upd (fun _ => none) 0 (some [1, 2, 3, 0]), 1, fun _ => none, fun _ => none, 0, []⟩ 0 none).2.2 = 4 := by decide +kernel

/-! non-vacuity of `C05_many_in_order`: three regions (one empty, one a clone) in one message after the demo history -/
def demo2 : List Op := [.fromBytes [1, 2, 3], .fromBytes [], .fromBytes [9, 8], .clone 0]
example : (run demo2).flight = [] ∧ (∀ p ∈ [(2, [9, 8]), (1, []), (3, [1, 2, 3])], ∃ h, (run demo2).hs[p.1]? = some (some (h, p.2))) :=
  ⟨by decide +kernel, fun p hp => srcs_get (by revert p; decide +kernel)⟩

example : (run (demo2 ++ [0, 2, 0, 1].map Op.drop)).hs[3]? = some (some (⟨some 6, 3, 5⟩, [1, 2, 3])) := by decide +kernel
/-- `C05_many_after_drops` on a concrete history: every handle dropped while the three regions are in flight -/
example : let w := run (demo2 ++ [(2, [9, 8]), (1, []), (3, [1, 2, 3])].map flightOf ++ [0, 1, 2, 3].map Op.drop ++ List.replicate 3 Op.recvFlight)
    (w.hs.drop 4).map (fun x => x.map fun p => (deref w.k p.1, p.2)) =
      [some (.bytes [9, 8], [9, 8]), some (.bytes [], []), some (.bytes [1, 2, 3], [1, 2, 3])] := by decide +kernel
/-- `C05_send_literal` on a concrete message: regions 2, 1 (empty) and 3 (a clone of region 0) of `demo2` -/
example : let w := run (demo2 ++ [(2, [9, 8]), (1, []), (3, [1, 2, 3])].map cloneOf ++ [4, 5, 6].map Op.flight ++ [4, 5, 6].map Op.drop ++ List.replicate 3 Op.recvFlight)
    (w.hs.drop 7).map (fun x => x.map fun p => (deref w.k p.1, p.2)) =
      [some (.bytes [9, 8], [9, 8]), some (.bytes [], []), some (.bytes [1, 2, 3], [1, 2, 3])] := by decide +kernel

end C05
