import IpcModel.Lemmas.FragProof
/-!
# C13 — transient buffer exhaustion during send is absorbed or reported, never damaging

`sendLoop` mirrors `OsIpcSender::send`, `recvMsg` mirrors `recv`; all arithmetic is the
generated `Gen.*`.  Quantified over every buffer size `1000 ≤ sys < 2^64`, every payload `d` and every fault stream.
-/
namespace C13
open Frag Gen Arith

/-- **C13_safe** — for every fault stream the send never reaches an out-of-range slice, a zero-length packet or a
non-decreasing retry (`panic`). -/
theorem C13_safe (sys : Nat) (len : Nat) (faults : List Fault) (h : 1000 ≤ sys) (h64 : sys < 2^64) :
    (sendLoop sys len faults).1 ≠ .panic := by
  rcases sendLoop_cases sys len faults with ⟨_, he⟩ | ⟨_, _, _, _, he, hR, _⟩ <;> rw [he]
  · split <;> nofun
  · exact hR.ne_panic ⟨h, h64⟩

/-- **C13_ok / C13_acceptable** — if `send` reports success, the packets it put on the two sockets make the
receiver return exactly the message: no packet exceeds the buffer the receiver offers for it (no truncation),
the header matches, nothing is missing, duplicated or reordered — whatever ENOBUFS pattern occurred. -/
theorem C13_ok (sys : Nat) (d : List α) (faults : List Fault) (h : 1000 ≤ sys) (h64 : sys < 2^64)
    (hok : (sendLoop sys d.length faults).1 = .ok) :
    ∃ p, firstPkt d (sendLoop sys d.length faults).2 = some p ∧
      ∀ eof, recvMsg sys p (followPkts d (sendLoop sys d.length faults).2) eof = .ok d := by
  rcases sendLoop_recv sys d faults h h64 with ⟨he, _⟩ | ⟨p, hp, _, hr⟩
  · cases he.symm.trans hok
  · exact ⟨p, hp, fun eof => by rw [hr eof, hok]; rfl⟩

/-- **C13_err** — if `send` reports an error, then either nothing reached the channel socket, or what reached
the sockets is a strict prefix whose header announces more than was delivered: the receiver never takes it
for a complete message (it waits while the sender lives, and sees end-of-file on the dedicated socket afterwards). -/
theorem C13_err (sys : Nat) (d : List α) (faults : List Fault) (h : 1000 ≤ sys) (h64 : sys < 2^64)
    (herr : (sendLoop sys d.length faults).1 = .err) :
    firstPkt d (sendLoop sys d.length faults).2 = none ∨
    ∃ p, firstPkt d (sendLoop sys d.length faults).2 = some p ∧
      ∀ eof, recvMsg sys p (followPkts d (sendLoop sys d.length faults).2) eof = (if eof then .closed else .block) := by
  rcases sendLoop_recv sys d faults h h64 with ⟨_, hn⟩ | ⟨p, hp, _, hr⟩
  · exact .inl hn
  · exact .inr ⟨p, hp, fun eof => by rw [hr eof, herr]; rfl⟩

/-- **C13_fds_once** — on success the descriptors travel on exactly one delivered packet (the single packet or the
first fragment, which in the fragmented case also carries the dedicated socket, appended last by `shape_fdOrder`);
in every case on at most one. -/
theorem C13_fds_once (sys len : Nat) (faults : List Fault) :
    fdCarriers (sendLoop sys len faults).2 ≤ 1 ∧
    ((sendLoop sys len faults).1 = .ok → fdCarriers (sendLoop sys len faults).2 = 1) := by
  rcases sendLoop_cases sys len faults with ⟨_, he⟩ | ⟨pre, rest, r, l, he, hR, hE⟩ <;> rw [he]
  · cases (nextFault faults).1 with
    | none => exact ⟨Nat.le_refl _, fun _ => rfl⟩
    | enobufs => exact ⟨Nat.zero_le _, nofun⟩
    | fatal => exact ⟨Nat.zero_le _, nofun⟩
  · have hc : fdCarriers (pre ++ .sock :: l) = fdCarriers l := by
      rcases hE.pre_eq with rfl | rfl <;> rfl
    rw [hc]
    exact ⟨hR.carriers.1, fun h => hR.carriers.2 h hE.nonempty⟩

theorem C13_shape_fdOrder : Gen.shape_fdOrder = true := by decide

/-- **C13_small_enobufs** — ENOBUFS on a single-packet attempt of at most 2000 bytes is reported, not retried. -/
theorem C13_small_enobufs (sys len : Nat) (rest : List Fault) (hs : len ≤ firstFragmentSize sys) (h : len ≤ 2000) :
    sendLoop sys len (.enobufs :: rest) = (.err, [.single len .enobufs]) := by
  have hd : downsize sys len = none := (Arith.downsize_none sys len).2 h
  simp [sendLoop, singleTest, hs, nextFault, hd]

/-- **C13_terminates** — explicit bound on the number of system calls of one `send`. -/
theorem C13_terminates (sys len : Nat) (faults : List Fault) :
    (sendLoop sys len faults).2.length ≤ faults.length + len + 3 := by
  rcases sendLoop_cases sys len faults with ⟨_, he⟩ | ⟨pre, rest, r, l, he, hR, hE⟩ <;> rw [he]
  · exact Nat.le_add_left ..
  · -- at most two attempts before the loop, and the refused single packet has used up a fault
    have hloop := hR.length_le
    rcases hE.cases with ⟨rfl, _, rfl⟩ | ⟨rfl, _, rfl⟩
    · simp only [List.nil_append, List.length_cons]
      omega
    · simp only [List.length_append, List.length_cons, List.length_nil]
      omega

/-- the hypotheses are met by a concrete run with retries: 13000 bytes, 4608-byte buffer, ENOBUFS on attempts 1 and 3
(the same trace is produced by the real crate under the interposer, see the correspondence run) -/
example : sendLoop 4608 13000 [.enobufs, .none, .enobufs] = (.ok,
    [.sock, .first 0 4568 13000 .enobufs, .first 0 2264 13000 .none, .follow 2264 4536 .enobufs,
     .follow 2264 3384 .none, .follow 3384 4504 .none, .follow 4504 5624 .none, .follow 5624 6744 .none,
     .follow 6744 7864 .none, .follow 7864 8984 .none, .follow 8984 10104 .none, .follow 10104 11224 .none,
     .follow 11224 12344 .none, .follow 12344 13000 .none]) := by
  simp [sendLoop, singleTest, ffs_eq, fs_eq, fragLoop, nextFault, endPos, mkAtt, endFirst, endFollow, downsize, sentSize]

/-- sensitivity: the receiver model *can* lose bytes — a follow-up packet one byte longer than the chunk the receiver
offers is truncated; `C13_ok` says the sender never produces one -/
example (a b c : List α) (ha : a.length = 4568) (hb : b.length = 4577) :
    recvMsg 4608 ⟨10000, a, true⟩ [b, c] true = .trunc := by
  simp [recvMsg, recvFollow, recvEnd, fs_eq, ha, hb]

end C13
