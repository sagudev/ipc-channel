import IpcModel.Lemmas.IdealProof
import IpcModel.Props.C14
import IpcModel.Props.C15
import IpcModel.Props.C16
/-!
# C04 — endpoints sent inside messages keep their identity, position and backlog

Four layers, each with its theorem:
* **wire** (`Wire`): a value with endpoints and regions anywhere in it decodes from its own encoding to the same value —
  every endpoint at its position — consuming exactly its own attachment slots (`C04_roundtrip`);
* **ipc.rs tables** (`Side`): a successful `send` hands the OS exactly the value's endpoints, in traversal order, indexed
  from 0, whatever nested sends happened meanwhile (`C04_own`);
* **descriptors** (`Cmsg`): channels ++ regions ++ dedicated socket go through the kernel and are split back into exactly
  (channels, regions, dedicated) on the other side, for single- and multi-packet messages (`C04_fd_order`);
* **queues** (`Ideal`, the specification the transports are compared with step by step): the queue of a channel belongs to
  the channel, not to a handle — moving the receiver handle inside messages, over any number of hops, never changes what
  is queued; everything sent before, during and after the hops is received in order (`C04_backlog`), and while the
  receiver is in transit the program's old handle yields nothing (`C04_moved_from`).
-/
namespace C04
open Ideal

/-- **C04_roundtrip** — identity and position of every endpoint and region in any well-typed value. -/
theorem C04_roundtrip (v : Wire.Value) (s : Wire.Schema) (h : Wire.HasType v s) (r : Wire.Bytes) (fuel : Nat) (hf : Wire.vsize v < fuel)
    (hc : (Wire.chans v).length < 256 ^ 8) (hs : (Wire.shms v).length < Wire.USIZE_MAX) :
    Wire.toValue ⟨false⟩ fuel s (Wire.enc v 0 0 ++ r) (Wire.chans v) (Wire.shms v)
      = .ok v r ⟨(Wire.chans v).map fun _ => none, (Wire.shms v).map fun _ => none⟩ :=
  C16.C16_roundtrip v s h r fuel hf hc hs

/-- **C04_own** — the attachments of the OS-level message are the value's own endpoints in traversal order. -/
theorem C04_own (osOk : Nat → Bool) (tx : Nat) (v : List Side.Node) (tls : Side.Tls) (eff : Side.Eff)
    (h : (Side.ipcSend ⟨false⟩ osOk tx v tls eff).1 = true) :
    ∃ before, (Side.ipcSend ⟨false⟩ osOk tx v tls eff).2.2.sent
      = before ++ [⟨tx, Side.ownBytes v 0 0, Side.ownChans v, Side.ownShms v⟩] :=
  C14.C14_own osOk tx v tls eff h

/-- **C04_fd_order** — descriptor lists survive the kernel and are split back exactly, small or multi-packet. -/
theorem C04_fd_order (sys len : Nat) (faults : List Frag.Fault) (chans shms : List Cmsg.Fd) (ded : Cmsg.Fd)
    (hc : ∀ c ∈ chans, c.sock = true) (hs : ∀ s ∈ shms, s.sock = false) (hd : ded.sock = true)
    (hok : (Cmsg.osSend sys len (chans.length + shms.length) faults).1 = .ok) :
    Cmsg.recvSplit (Cmsg.sendFds chans shms (if Cmsg.isFrag (Cmsg.osSend sys len (chans.length + shms.length) faults).2 then some ded else none))
        (Cmsg.isFrag (Cmsg.osSend sys len (chans.length + shms.length) faults).2)
      = some (chans, shms, if Cmsg.isFrag (Cmsg.osSend sys len (chans.length + shms.length) faults).2 then some ded else none) :=
  (C15.C15_accept_all sys len faults chans shms ded hc hs hd hok).2

/-- **C04_backlog (one step)** — no operation other than a successful send on `d`, a successful receive from `d`, or the
destruction of `d`'s receiver changes `d`'s queue; sends append at the tail, receives remove the head. -/
theorem C04_queue_step (st : St) (op : Op) (d : Nat) : QEffect st (step st op).1 d op (step st op).2 := fifo_step st op d

/-- **C04_backlog** — over every program, for every channel `d` whose receiver is not destroyed along the way:
received ++ still queued = initially queued ++ successfully sent, in order.  Hops of `d`'s receiver (sent inside a message,
unpacked, sent again, between any sends to `d`) are ordinary operations of the program, so any number of them is covered. -/
theorem C04_backlog (ops : List Op) (st : St) (d : Nat) (q0 : List Msg) (hQ : Q st d = some q0) :
    DestroyedAlong st d ops ∨
    ∃ q', Q (runFrom st ops).1 d = some q' ∧ recvdOn d (runFrom st ops).2 ++ q' = q0 ++ sentOn d (runFrom st ops).2 :=
  fifo_run ops st d q0 hQ

/-- **C04_moved_from** — once a message carrying the receiver of `d` has been accepted, the program no longer holds that
receiver: a receive on `d` issued by the program yields no message (the handle it was sent from receives nothing further),
until the carrying message is unpacked. -/
theorem C04_moved_from (st : St) (c d tag : Nat) (hs : List Handle) (chd : Chan) (hd : st.chans[d]? = some chd) (hcd : c ≠ d)
    (hm : Handle.rcv d ∈ hs) (hok : (step st (.send c tag hs)).2 = .ok) :
    (step (step st (.send c tag hs)).1 (.recv d)).2 = .invalid := by
  simp only [step] at hok ⊢
  cases hc : st.chans[c]? with
  | none => simp [hc] at hok
  | some ch =>
    simp only [hc] at hok ⊢
    by_cases hz : ch.senders = 0
    · simp [hz] at hok
    · by_cases ha : c ∈ rxAlive st
      · simp [hz, ha, modify_get, hcd, markInMsg_get, hd, hm]
      · simp [hz, ha] at hok

/-! non-vacuity: the receiver of channel 1 hops through channel 0 twice while messages 7, 8, 9 are sent to it before,
between and after the hops; they are received in order at the end -/
example : (Ideal.run [.newChan, .newChan, .send 1 7 [], .send 0 1 [.rcv 1], .send 1 8 [], .recv 0,
                      .send 0 2 [.rcv 1], .recv 1, .send 1 9 [], .recv 0, .recv 1, .recv 1, .recv 1]).2
    = [.ok, .ok, .ok, .ok, .ok, .msg 1 [.rcv 1], .ok, .invalid, .ok, .msg 2 [.rcv 1], .msg 7 [], .msg 8 [], .msg 9 []] := by decide +kernel

end C04
