import IpcModel.Lemmas.RouterProof
import IpcModel.GenRouter
import IpcModel.RouterSys
import IpcModel.Lemmas.RouterDispatch
/-!
# C07 — router: each routed message reaches its handler once, in order; then it is freed

One-step dispatch theorems over the router thread model, for every state: together with the freshness invariant they
say that the effects concerning route `r` are exactly `invoke r m₁ … invoke r m_k` for the messages delivered on r's
receiver-set id, in that order, followed by one `dropH r` at its closure, and that no other route is affected.

`C07_dispatch` is the end-to-end statement over whole event streams from any state satisfying `RInv`: traffic, closures and
wake-ups, which register what that state has queued (`run` itself queues nothing; a later registration starts a new run):
`(log restricted to r) = map (invoke r) (messages reported for r's id, in order) ++ [dropH r]?`; the one-step
theorems below are its building blocks.  The event stream itself (each member's messages in order, then one closure) is
the receiver set's contract (C06); messages queued before registration are reported after it, so they are covered.
-/
namespace C07
open Router

/-- **C07_dispatch** — over every event stream that does not stop the router: the effects concerning route `r` are exactly
one `invoke r t` per message reported for its id, in order, followed by one `dropH r` iff the id's closure was reported;
other members' events, other routes' registrations and wake-ups contribute nothing to it. -/
theorem C07_dispatch (es : List Ev) {st : St} (hi : RInv st) {id r : Nat} (hl : lookup st.handlers id = some r) (hnc : Ev.wakeClosed ∉ es) :
    routeLog r (run fixed st es).log
      = routeLog r st.log ++ (proj id es).1.map (Eff.invoke r) ++ (if (proj id es).2 then [Eff.dropH r] else []) :=
  dispatch_run es hi hl hnc

/-- a message event for a registered id invokes exactly the handler registered for that id, once; registrations unchanged -/
theorem C07_dispatch_partial_msg (st : St) (id tag r : Nat) (hs : st.stopped = false) (hr : routeOf st id = some r) :
    (step fixed st (.msg id tag)).log = st.log ++ [.invoke r tag] ∧ (step fixed st (.msg id tag)).handlers = st.handlers :=
  step_msg st id tag r hs hr

/-- closure drops exactly that handler, once, and unregisters the id; other routes are untouched -/
theorem C07_dispatch_partial_closed (st : St) (id r : Nat) (hs : st.stopped = false) (hr : routeOf st id = some r) :
    (step fixed st (.closed id)).log = st.log ++ [.dropH r] ∧
    routeOf (step fixed st (.closed id)) id = none ∧
    ∀ id', id' ≠ id → routeOf (step fixed st (.closed id)) id' = routeOf st id' :=
  step_closed st id r hs hr

/-- **C07_keys** — registering a route gives it a fresh id and never changes the route of an existing id
(so routes registered concurrently — the proxy mutex serialises them — do not disturb one another) -/
theorem C07_keys (st : St) (r : Nat) (q : List RMsg) (hs : st.stopped = false) (hq : st.msgq = .addRoute r :: q)
    (hns : ∀ m ∈ q, ∀ c, m ≠ .shutdown c) (hfresh : Fresh st) (id : Nat) (hid : id < st.nextId) :
    routeOf (step fixed st .wake) id = routeOf st id ∧ routeOf (step fixed st .wake) st.nextId = some r :=
  step_add_preserves st r q hs hq hns hfresh id hid

/-- freshness is an invariant of every run from the initial state, for any event stream -/
theorem C07_fresh (es : List Ev) : Fresh (run fixed Router.init es) :=
  run_fresh fixed es _ nofun

/-- non-vacuity: two routes, interleaved traffic, one closure -/
example : (run fixed ⟨[], 1, [.addRoute 10, .addRoute 20], false, []⟩
    [.wake, .wake, .msg 1 5, .msg 2 6, .msg 1 7, .closed 1, .msg 2 8]).log
    = [.invoke 10 5, .invoke 20 6, .invoke 10 7, .dropH 10, .invoke 20 8] := by decide +kernel

/-- the event loop of the real `Router::run` distinguishes exactly the four kinds of select result the model's `step` has
(wake-up message, routed message, wake-up channel closed, routed channel closed) — regenerated from `src/router.rs` -/
theorem C07_shape : Gen.routerRunArms = 4 := by decide

/-- **C07_code_variant** — the source as it is now is the variant the theorems of this file are about: a wake-up clears the flag and
then serves the whole queue; the `Shutdown` arm drops the handlers, then acknowledges, then ends the thread; a closed wake-up
channel has its own arm; `shutdown` awaits the acknowledgement after the locked block; `add_route` locks, checks for a late
offer, queues the request and wakes the router, in this order; wake-ups are coalesced through the shared flag. -/
theorem C07_code_variant : Router.codeVariant = Router.fixed ∧ RSys.codeVariant = RSys.fixed ∧ Gen.shape_shutdownOrder = true ∧
    Gen.shape_shutdownIdempotent = true ∧ Gen.shape_addRouteOrder = true ∧ Gen.shape_wakeCoalesced = true := by decide

/-- **C07_undecodable_isolated** — a message that does not decode as the route's type, arriving on a crossbeam-forwarding route (event `badFwd`; on a
user callback route the callback receives the decode error as an ordinary invocation): the repaired forwarding handler (variant
flag `fwdUnwraps = false`, regenerated from `route_ipc_receiver_to_crossbeam_sender`) drops it and *nothing else changes* — no
panic, the router keeps running, every registration stays; together with `C07_dispatch` (whose event streams may contain such
events anywhere: the projection of a route's traffic skips them) every other message of every route is still delivered exactly
once, in order. -/
theorem C07_undecodable_isolated (st : St) (i r : Nat) (hs : st.stopped = false) (hl : lookup st.handlers i = some r) :
    step fixed st (.badFwd i) = st ∧ Router.codeVariant.fwdUnwraps = false :=
  ⟨step_badFwd_some hs hl, by decide⟩

/-- before the repair (D19): the router thread panics -/
example : (step legacy ⟨[(1, 7)], 2, [], false, []⟩ (.badFwd 1)).log = [.panic] := by decide +kernel

end C07
