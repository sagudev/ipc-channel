import IpcModel.InprocReg
import IpcModel.Lemmas.OneShotProof
/-!
# C08 — one-shot server bootstrap connects two processes and leaves nothing behind

Model `OneShot`: servers (listening socket bound to a name inside its own temp directory, FIFO backlog), connections with
their message queues, and the operations `new` (with a failure injected at any of its steps), `connect`, client sends,
client exit, `accept` (which consumes the server), dropping an unused server, receives on the returned receiver.  An
operation that would wait answers `blocks` and leaves the state unchanged, so "connect before or after accept is called"
is covered by every interleaving of the client's and the server's operations.

Shape facts about `new` / `accept` / `new_sockaddr_un` are regenerated from the source (`Gen.shape_*`): the server object
owns descriptor and directory before `bind`, the path is checked against `sun_path`, the default `tempfile` naming is used,
`accept` consumes the server and makes the connection lingering before the first receive.

Not reached: uniqueness of `mkdtemp` names and file-system behaviour (the model draws names from a fresh counter; the
harness checks 3 000 consecutive and 200 simultaneous real names for distinctness and lists the temp root).
-/
namespace C08
open OneShot ListLookup

/-- **C08_first** — accept returns the first message of the first connection, with a receiver on that connection whose
queue is what the client sent afterwards. -/
theorem C08_first (st : St) (s c t : Nat) (sv : Srv) (x : Conn) (rest : List Nat) (q : List Nat)
    (hs : st.srvs[s]? = some sv) (ho : sv.fdOpen = true) (hl : sv.listening = true) (hb : sv.backlog = c :: rest)
    (hc : st.conns[c]? = some x) (hq : x.queue = t :: q) :
    (step st (.accept s)).2 = .accepted c t ∧ Qc (step st (.accept s)).1 c = some q := by
  simp only [step, hs, ho, hl, hb, hc, hq, Bool.and_self, Bool.not_true, Bool.false_eq_true, if_false]
  rw [retire_Qc]
  simp [Qc, List.getElem?_set_self (lt_of_get hc)]

/-- **C08_orders** — for every history (any interleaving of connect, client sends, client exit, accept attempts, receives)
and every connection whose receiver the program keeps: first message ++ later messages ++ still queued = everything the
client sent, in order. -/
theorem C08_orders (ops : List Op) (st : St) (c : Nat) (q0 : List Nat) (hQ : Qc st c = some q0) (hnd : ¬ rxDropped c ops) :
    ∃ q', Qc (runFrom st ops).1 c = some q' ∧ recvdOn c (runFrom st ops).2 ++ q' = q0 ++ sentOn c (runFrom st ops).2 := by
  induction ops generalizing st q0 with
  | nil => exact ⟨q0, hQ, (List.append_nil _).symm⟩
  | cons op ops ih =>
    obtain ⟨hop, hrest⟩ := not_or.mp (mt rxDropped_cons.mpr hnd)
    obtain ⟨q1, hQ1, h1⟩ := conn_step st op c q0 hQ (Ne.symm hop)
    obtain ⟨q', hQ', h'⟩ := ih _ q1 hQ1 hrest
    refine ⟨q', hQ', ?_⟩
    show recvdOn c (_ :: _) ++ q' = q0 ++ sentOn c (_ :: _)
    rw [recvdOn_cons, sentOn_cons, List.append_assoc, h', ← List.append_assoc, h1, List.append_assoc]

/-- **C08_clean**, in three parts — once accept has returned (message or error), the server's descriptor is closed and its
file-system entries are gone. -/
theorem C08_clean_accept (st : St) (s : Nat) (h : (step st (.accept s)).2 ≠ .blocks) (hv : (step st (.accept s)).2 ≠ .invalid) :
    Gone (step st (.accept s)).1 s := by
  suffices ∀ st' r, Step st (.accept s) st' r → r ≠ .blocks → r ≠ .invalid → Gone st' s from this _ _ (step_spec st _) h hv
  intro st' r hs h hv
  cases hs with
  | stay hr => simp [refusals, h, hv] at hr
  | accept hs | acceptGone hs => exact retire_gone (by simpa using lt_of_get hs)

/-- … likewise once the server was dropped unused -/
theorem C08_clean_drop (st : St) (s : Nat) (h : (step st (.dropServer s)).2 = .ok) : Gone (step st (.dropServer s)).1 s := by
  suffices ∀ st' r, Step st (.dropServer s) st' r → r = .ok → Gone st' s from this _ _ (step_spec st _) h
  intro st' r hs h
  cases hs with
  | stay hr => simp [refusals, h] at hr
  | dropServer hs => exact retire_gone (lt_of_get hs)

/-- … and a `new` that fails at any step leaves no server behind -/
theorem C08_clean_failed_new (st : St) (k : Nat) (hk : k ≠ 0) :
    (step st (.new k)).2 = .err ∧ (step st (.new k)).1.srvs = st.srvs ∧ (step st (.new k)).1.conns = st.conns := by
  simp [step, hk]

/-- **C08_distinct** — in every history all servers ever created have pairwise distinct names (given fresh directory names). -/
theorem C08_distinct (ops : List Op) : ((run ops).1.srvs.map (·.name)).Nodup := (names_run ops).1

/-- shape facts regenerated on this run -/
theorem C08_shape : Gen.shape_tempdirDefault = true ∧ Gen.shape_serverOwnsBeforeBind = true ∧ Gen.shape_pathChecked = true ∧
    Gen.shape_acceptLingerThenRecv = true ∧ Gen.shape_acceptConsumesServer = true ∧ Gen.listenBacklog = 10 ∧
    Gen.shape_rendezvousCloexec = true ∧ Gen.shape_acceptOwnsBeforeLinger = true := by decide

/-! non-vacuity: the client connects, sends 7 and 8 and exits before accept; accept returns 7, the receiver then yields 8 and
reports disconnection; nothing is left -/
example : (run [.new 0, .accept 0, .connect 0, .accept 0, .csend 0 7, .csend 0 8, .cclose 0, .accept 0, .recv 0, .recv 0]).2
    = [.server 0 0, .blocks, .conn 0, .blocks, .ok, .ok, .ok, .accepted 0 7, .msg 8, .disc] := by decide +kernel
example : fsCount (run [.new 0, .connect 0, .csend 0 7, .accept 0]).1 = 0 ∧ listenFds (run [.new 0, .connect 0, .csend 0 7, .accept 0]).1 = 0 := by decide +kernel
example : fsCount (run [.new 3, .new 0, .dropServer 0]).1 = 0 := by decide

/-- **C08_inproc_registry** — the in-process transport's rendezvous (registry operations regenerated from `src/platform/inprocess/mod.rs`:
`new` registers, `accept` and dropping the server unregister, `connect` looks up without unwrapping): after any sequence of
new / connect / accept / drop, a connect reaches server `n` exactly when that server is still waiting and is an *error*
otherwise (a name never handed out, a server that has accepted, a server dropped unused); no operation ever panics; and
once no server is waiting the registry is empty — nothing created for a rendezvous remains. -/
theorem C08_inproc_registry (ops : List InprocReg.Op) (n : Nat) :
    InprocReg.codeVariant = InprocReg.fixed ∧
    (InprocReg.step InprocReg.fixed (InprocReg.run InprocReg.fixed ops).1 (.connect n)).2
      = (if (InprocReg.run InprocReg.fixed ops).1.phase[n]? = some .live then .connected n else .err) ∧
    InprocReg.Res.panic ∉ (InprocReg.run InprocReg.fixed ops).2 ∧
    ((∀ k : Nat, (InprocReg.run InprocReg.fixed ops).1.phase[k]? ≠ some InprocReg.Phase.live) → (InprocReg.run InprocReg.fixed ops).1.reg = []) :=
  ⟨InprocReg.code_variant.1, (InprocReg.connect_spec ops n).1, InprocReg.no_panic ops, fun h => (InprocReg.clean ops h).1⟩

/-- what one call of a blocking wait (`accept4`, the receive of the first message) answers -/
inductive WaitAns (α : Type) | eintr | done (a : α)

/-- the wait as `accept` performs it: `none` — still waiting; `some none` — an error passed on to the caller (who cannot retry:
`accept` has consumed the server); `some (some a)` — the awaited connection / message -/
def waitLoop {α : Type} (retry : Bool) : List (WaitAns α) → Option (Option α)
  | [] => none
  | .done a :: _ => some (some a)
  | .eintr :: q => if retry then waitLoop retry q else some none

theorem waitLoop_retry {α : Type} (n : Nat) (a : α) (rest : List (WaitAns α)) :
    waitLoop true (List.replicate n .eintr ++ .done a :: rest) = some (some a) := by
  induction n with
  | zero => rfl
  | succ n ih => simpa [List.replicate_succ, waitLoop] using ih

/-- **C08_accept_survives_signals** — however many times a signal cuts the wait in `accept4` or the wait for the first message short (`EINTR`), `accept` still
ends with the connection and its first message: both waits are repeated (regenerated: `shape_acceptRetriesEintr`).  Before the
repair (D22) the first interruption made `accept` fail — with the server consumed, the rendezvous was lost. -/
theorem C08_accept_survives_signals {α : Type} (n : Nat) (a : α) (rest : List (WaitAns α)) :
    Gen.shape_acceptRetriesEintr = true ∧
    waitLoop Gen.shape_acceptRetriesEintr (List.replicate n .eintr ++ .done a :: rest) = some (some a) := by
  have h : Gen.shape_acceptRetriesEintr = true := by decide
  exact ⟨h, by rw [h]; exact waitLoop_retry n a rest⟩

example : waitLoop false [WaitAns.eintr, .done 5] = some none := by decide

end C08
