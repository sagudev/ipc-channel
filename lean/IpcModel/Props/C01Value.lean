import IpcModel.Props.C01
import IpcModel.Props.C16
/-!
# C01 (continued) — a typed value end to end: serialise, fragment under any fault stream, reassemble, decode

Composition of the two halves of C01: the bytes `Wire.enc v` produced by the serialiser for a well-typed value travel through
`send` — as one packet or as fragments, with `ENOBUFS` retries at arbitrary points — and whenever `send` reports success the
receiver reassembles exactly those bytes and decodes exactly `v` from them, consuming exactly `v`'s own attachments.
-/
namespace C01
open Frag Wire

/-- **C01_value_end_to_end** — for every well-typed value (nested options, sequences, tuples, enums, strings, integers,
embedded endpoints and regions), every buffer size `1000 ≤ sys < 2^64` and every fault stream: if `send` returns Ok then
the receiver's reassembled payload decodes to the value that was sent, with nothing left over and every attachment slot
consumed. -/
theorem C01_value_end_to_end (sys : Nat) (v : Value) (s : Schema) (hty : HasType v s) (faults : List Fault)
    (h : 1000 ≤ sys) (h64 : sys < 2^64) (fuel : Nat) (hf : vsize v < fuel)
    (hc : (chans v).length < 256 ^ 8) (hs : (shms v).length < USIZE_MAX)
    (hok : (sendLoop sys (enc v 0 0).length faults).1 = .ok) :
    ∃ p, firstPkt (enc v 0 0) (sendLoop sys (enc v 0 0).length faults).2 = some p ∧
      ∀ eof, ∃ bytes, recvMsg sys p (followPkts (enc v 0 0) (sendLoop sys (enc v 0 0).length faults).2) eof = .ok bytes ∧
        toValue ⟨false⟩ fuel s bytes (chans v) (shms v) = .ok v [] ⟨(chans v).map fun _ => none, (shms v).map fun _ => none⟩ := by
  obtain ⟨p, hp, hr⟩ := C13.C13_ok sys (enc v 0 0) faults h h64 hok
  exact ⟨p, hp, fun eof => ⟨enc v 0 0, hr eof, by simpa using C16.C16_roundtrip v s hty [] fuel hf hc hs⟩⟩

end C01
