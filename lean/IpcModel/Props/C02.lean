import IpcModel.RecvSig
import IpcModel.Interleave.Bridge
import IpcModel.Interleave.HB
import IpcModel.Interleave.Att
/-!
# C02 — messages are delivered exactly once, whole, and in the order they were sent

Model `IM`: any number of sender threads, each with a list of messages to send (any lengths); every message owns its
dedicated socket; actions `s t` (thread t's next system call succeeds), `f t` (it gets ENOBUFS), `x t` (fatal error),
`crash t` (the sender dies), `r` (the receiver's next system call).  `run (init sys lens threads) schedule = some st`
ranges over **all** schedules.  A receive that would be truncated or misplaced yields `corrupt`, so absence of
corruption is a theorem, not a modelling choice.

`IM` computes packet sizes by closed forms; `Interleave/Bridge` ties them to the arithmetic regenerated from the source
(`IM.*_is_gen`).  Nothing below names those lemmas: the module is imported so that this property is checked only together with them.
-/
namespace C02
open IM

/-- **C02_whole** (`delivery_safe`) — in every reachable state of every schedule: no message is ever delivered corrupt (bytes of
different messages are never mixed, nothing is truncated); a delivered message has exactly its own length and its send
returned `Ok`; only failed sends are discarded; a message whose send returned `Ok` is never discarded. -/
theorem C02_whole (sys : Nat) (lens : List Nat) (threads : List (List Nat)) (hsys : 1000 ≤ sys)
    (as : List Act) (st : St) (h : run (init sys lens threads) as = some st) (m : Nat) (x : M) (hm : st.msgs[m]? = some x) :
    x.rs ≠ .corrupt ∧ (∀ n, x.rs = .delivered n → n = x.len ∧ x.phase = .ok) ∧ (x.rs = .discarded → x.phase = .failed) ∧
    (x.phase = .ok → x.rs ≠ .discarded) :=
  delivery_safe sys lens threads hsys as st h m x hm

/-- **C02_once_ordered** (`fifo_consumption`) — the order in which first packets reached the channel has no duplicates and always
splits as *consumed ++ under assembly ++ still queued*: messages are consumed exactly once, in that order, none skipped. -/
theorem C02_once_ordered (sys : Nat) (lens : List Nat) (threads : List (List Nat)) (hsys : 1000 ≤ sys)
    (as : List Act) (st : St) (h : run (init sys lens threads) as = some st) :
    st.firstOrder.Nodup ∧
    ∃ C : List Nat, st.firstOrder = C ++ st.cur.toList ++ st.mainq ∧
      (∀ k, k ∈ C → consumedAt st k = true) ∧
      (∀ k, k ∈ st.cur.toList ++ st.mainq → consumedAt st k = false) :=
  fifo_consumption sys lens threads hsys as st h

/-- **C02_ok_in_order** — every message whose send returned `Ok` is in that order (nothing that was acknowledged to the sender
is lost; with `C02_once_ordered` and `C02_whole` it is delivered exactly once, intact, when its turn comes). -/
theorem C02_ok_in_order (sys : Nat) (lens : List Nat) (threads : List (List Nat)) (hsys : 1000 ≤ sys)
    (as : List Act) (st : St) (h : run (init sys lens threads) as = some st) (m : Nat) (x : M)
    (hm : st.msgs[m]? = some x) (hok : x.phase = .ok) : m ∈ st.firstOrder := by
  obtain ⟨hS, hO⟩ := inv_run _ _ as (sinv_init sys lens threads hsys) (oinv_init sys lens threads) h
  exact (hO.mem_iff hm).mpr ((hS.good hm).started.2 hok)

/-- **C02_hb** (`happened_before`) — whenever one send returned before another began (same handle, a clone, another thread or
process), the first message's first packet precedes the second's, hence it is delivered first. -/
theorem C02_hb (sys : Nat) (lens : List Nat) (threads : List (List Nat)) (hsys : 1000 ≤ sys)
    (as₁ as₂ : List Act) (st₁ st₂ : St)
    (h₁ : run (init sys lens threads) as₁ = some st₁) (h₂ : run st₁ as₂ = some st₂)
    (a b : Nat) (xa xb : M) (ha : st₁.msgs[a]? = some xa) (hb : st₁.msgs[b]? = some xb)
    (hfin : finished xa) (htodo : xb.phase = .todo)
    (ha₂ : a ∈ st₂.firstOrder) (hb₂ : b ∈ st₂.firstOrder) :
    ∃ l₁ l₂ l₃, st₂.firstOrder = l₁ ++ a :: l₂ ++ b :: l₃ :=
  happened_before sys lens threads hsys as₁ as₂ st₁ st₂ h₁ h₂ a b xa xb ha hb hfin htodo ha₂ hb₂

/-- non-vacuity: two threads, a 3-packet and a 1-packet message, an interleaved schedule that delivers both -/
example : (run (init 4608 [13000, 100] [[0], [1]])
    [.s 0, .s 0, .s 1, .s 0, .s 1, .r, .r, .s 0, .r, .r]).map (fun st => (st.msgs.map (·.rs), st.firstOrder))
    = some ([.delivered 13000, .delivered 100], [0, 1]) := by decide +kernel

/-- **C02_whole_with_attachments** — "as one whole message" includes what is attached: over all schedules the descriptors returned
with each delivered message are exactly the ones it was sent with (see `C12_attachments_all_schedules`). -/
theorem C02_whole_with_attachments (atts : Nat → List Nat) (sys : Nat) (lens : List Nat) (threads : List (List Nat)) (as : List Act) :
    (RecvAtt.feedAll RecvAtt.codeCfg ⟨[], none, []⟩ ((routs (init sys lens threads) as).flatMap (evOf atts))).out
      = ((routs (init sys lens threads) as).flatMap delivOf).map atts :=
  att_init atts sys lens threads as

/-- **C02_shape_followups_blocking** — the model's receiver stays with a message from its first packet until the message is complete or
found truncated (`cur`); the source does the same: inside the reassembly loop the follow-up fragments are read with a plain
blocking `recv` on the dedicated socket, with no poll, time-out or non-blocking flag — whatever receive call the program
used (regenerated from `recv`). -/
theorem C02_shape_followups_blocking : Gen.shape_followupsBlocking = true := by decide

/-- **C02_signal_transparent** — a signal handled by the receiving thread while it reassembles a multi-fragment message (any number of `recv()` calls on
the dedicated socket answered `EINTR`, at any positions) changes nothing: for the code as it is now (`shape_followupRetriesEintr`,
regenerated) the reassembly ends exactly as the uninterrupted one — the message is delivered once, whole.  Without the retry one
interruption loses the message (`RecvSig.loop_noretry_err`, D20). -/
theorem C02_signal_transparent {α : Type} (sys total : Nat) (buf : List α) (answers : List (RecvSig.Ans α)) (eof : Bool) :
    Gen.shape_followupRetriesEintr = true ∧ Gen.shape_followupRestoresLen = true ∧
    RecvSig.loop Gen.shape_followupRetriesEintr sys total buf answers eof Gen.shape_followupRestoresLen
      = RecvSig.embed (Frag.recvFollow sys total buf (RecvSig.strip answers) eof) :=
  ⟨rfl, rfl, RecvSig.loop_code sys total buf answers eof⟩

/-- non-vacuity / sensitivity: a 3-packet message, the second and third read interrupted (twice in a row) -/
example : RecvSig.loop true 4608 20 [1, 2] [.eintr, .data [3, 4, 5], .eintr, .eintr, .data (List.replicate 15 9)] false
    = .ok ([1, 2, 3, 4, 5] ++ List.replicate 15 9) := by decide +kernel
example : RecvSig.loop false 4608 20 [1, 2] [.eintr, .data [3, 4, 5]] false = .err :=
  RecvSig.loop_noretry_err _ _ _ _ _ (by decide)
example : RecvSig.loop true 4608 20 [1, 2] [.eintr, .data [3, 4, 5]] false false = .corrupt :=
  RecvSig.loop_norestore_corrupt _ _ _ _ _ (by decide)

end C02
