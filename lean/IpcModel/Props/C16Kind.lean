import IpcModel.GenInproc
/-!
# C16 — an endpoint of one kind decoded as the other kind (sender ↔ receiver)

The wire format carries an attachment *index* only.  The OS transports cannot tell a sending from a receiving end (both are
sockets): the conversion always succeeds and hands out an endpoint on the attached descriptor.  The in-process transport does
know the kind (`OsIpcChannel::Sender / Receiver`); its `to_sender` / `to_receiver` **panic** when asked for the other one
(`Gen.inprocKindMismatchPanics`).  Until the repair of D18 decoding went through those, so a receiver decoded as a sender panicked the
receiving thread on that transport; now `ipc.rs` converts through `platform::attachment::{to_sender, to_receiver}`, which on the
in-process back-end answer `None` for the wrong kind (⇒ a decode error, the attachment released) — flag `Gen.decodeKindMismatchIsError`,
regenerated from `ipc.rs`, `platform/mod.rs` and the in-process back-end.
-/
namespace C16Kind

inductive Kind | sender | receiver
deriving Repr, DecidableEq

inductive Out | endpoint (k : Kind) | err | panic
deriving Repr, DecidableEq

/-- converting an attachment of kind `att` to the kind `want` the expected type asks for; `knowsKind`: the transport records
kinds; `panics`: what decoding does there on a mismatch -/
def convert (knowsKind panics : Bool) (want att : Kind) : Out :=
  if !knowsKind || want == att then .endpoint want
  else if panics then .panic else .err

/-- what decoding does on a kind-aware transport, as the source says now -/
def codePanics : Bool := !Gen.decodeKindMismatchIsError

/-- the general fact behind `C16_kind_total`: no panic whenever the transport has no kind information or
answers a mismatch with an error -/
theorem C16_kind_partial (knowsKind panics : Bool) (h : knowsKind = false ∨ panics = false) (want att : Kind) :
    convert knowsKind panics want att ≠ .panic := by
  unfold convert
  rcases h with rfl | rfl
  · simp
  · split <;> simp

/-- **C16_kind_total** — on every transport (with or without kind information), for every wanted and attached kind, decoding an endpoint never
panics: the wrong kind is an endpoint on the attached descriptor where the transport cannot tell, a decode error where it can. -/
theorem C16_kind_total (knowsKind : Bool) (want att : Kind) : convert knowsKind codePanics want att ≠ .panic :=
  C16_kind_partial knowsKind codePanics (.inr (by decide)) want att

/-- a matching kind is always handed out as asked, on every transport -/
theorem C16_kind_match (knowsKind panics : Bool) (k : Kind) : convert knowsKind panics k k = .endpoint k := by
  simp [convert]

/-- the behaviour before the repair (D18): the in-process transport panicked -/
example : convert true true .sender .receiver = .panic := by decide
example : convert false true .sender .receiver = .endpoint .sender := by decide   -- OS: an endpoint on the attached descriptor
example : convert true codePanics .sender .receiver = .err := by decide           -- in-process now: a decode error

end C16Kind
