import IpcModel.Lemmas.SideProof
import IpcModel.TableScript
/-!
# C14 — a failed or nested send leaves no trace in later or enclosing messages

`ipcSend V osOk tx v tls eff` models `IpcSender::send` on a thread whose serialisation tables currently hold `tls`;
values may contain `nested` nodes (a `Serialize` impl that itself sends) and `fail` nodes (a `Serialize` impl that errs),
to any depth.  `osOk c` says whether the OS-level send on channel `c` succeeds.  Theorems are about the repaired code.
-/
namespace C14
open Side

/-- **C14_tables** — on success, on a serialisation failure at any point, on an OS failure, at every nesting depth:
the thread-local tables after `send` are the tables before it (nothing is retained by the library). -/
theorem C14_tables (osOk : Nat → Bool) (tx : Nat) (v : List Node) (tls : Tls) (eff : Eff) :
    (ipcSend ⟨false⟩ osOk tx v tls eff).2.1 = tls :=
  ipcSend_restores osOk tx v tls eff

/-- **C14_own** — a successful send hands the OS exactly the value's own attachments (those outside nested sends), in
traversal order, with bytes whose indices count from 0 — whatever the enclosing tables `tls` contain, and whatever
nested sends (successful or failing) happened while the value was serialised. -/
theorem C14_own (osOk : Nat → Bool) (tx : Nat) (v : List Node) (tls : Tls) (eff : Eff)
    (h : (ipcSend ⟨false⟩ osOk tx v tls eff).1 = true) :
    ∃ before, (ipcSend ⟨false⟩ osOk tx v tls eff).2.2.sent
      = before ++ [⟨tx, ownBytes v 0 0, ownChans v, ownShms v⟩] :=
  ⟨_, by rw [(ipcSend_sent osOk tx v tls eff).2, if_pos h]⟩

/-- **C14_self_contained** — every OS-level message produced by a send, inner or outer, is self-contained:
its bytes and attachments are those of one value serialised against empty tables. -/
theorem C14_self_contained (osOk : Nat → Bool) (tx : Nat) (v : List Node) (tls : Tls) :
    ∀ m ∈ (ipcSend ⟨false⟩ osOk tx v tls Eff.empty).2.2.sent, SelfContained m :=
  ipcSend_sc osOk tx v tls _ (ser_sc osOk v _ _ (by simp [Eff.empty]))

/-- **C14_fail** — a failing send transmits nothing on its own channel: what was sent is what the nested sends sent. -/
theorem C14_fail (osOk : Nat → Bool) (tx : Nat) (v : List Node) (tls : Tls) (eff : Eff)
    (h : (ipcSend ⟨false⟩ osOk tx v tls eff).1 = false) :
    (ipcSend ⟨false⟩ osOk tx v tls eff).2.2.sent = (ser ⟨false⟩ osOk v ⟨[], []⟩ eff).2.2.sent := by
  rw [(ipcSend_sent osOk tx v tls eff).2, h]; simp

/-! ### the statement order of the real `send`, regenerated from `src/ipc.rs` on every run -/

/-- **C14_send_script** — for the order of table operations the translator reads from `IpcSender::send` now
(`Gen.sendScript`), whatever the value's `Serialize` impl pushes, whether it fails, whether the OS send fails, and
whatever the enclosing tables hold: the script is executable; the thread-local tables afterwards are the tables before;
the result is Ok iff both succeeded; the OS send is given exactly the pushes of this serialisation; and in every other
case those pushes sit in a local of `send`, dropped when it returns — nothing is retained by the library. -/
theorem C14_send_script {α β : Type} (o : TS.SerOutcome α β) (osOk : Bool) (tlsC : List α) (tlsR : List β) :
    ∃ st, TS.runSend o osOk Gen.sendScript (TS.SendSt.init tlsC tlsR) = some st ∧
      st.tlsC = tlsC ∧ st.tlsR = tlsR ∧ st.ret = some (o.ok && osOk) ∧
      st.sent = (if o.ok && osOk then some (o.pushC, o.pushR) else none) ∧
      st.mineC = some o.pushC ∧ st.mineR = some o.pushR := by
  obtain ⟨pushC, pushR, ok⟩ := o
  cases ok <;> cases osOk <;> exact ⟨_, rfl, rfl, rfl, rfl, rfl, rfl, rfl⟩

/-- **C14_script_agrees** — the recursive model `ipcSend` (nested and failing sends to any depth) has, at each level, exactly
the behaviour of the regenerated script with "what the value's serialisation did" instantiated by the model's `ser`:
same tables afterwards, same result. -/
theorem C14_script_agrees (osOk : Nat → Bool) (tx : Nat) (v : List Node) (tls : Tls) (eff : Eff) :
    ∃ st, TS.runSend ⟨(ser ⟨false⟩ osOk v ⟨[], []⟩ eff).2.1.chans, (ser ⟨false⟩ osOk v ⟨[], []⟩ eff).2.1.shms,
                      (ser ⟨false⟩ osOk v ⟨[], []⟩ eff).1.isSome⟩ (osOk tx) Gen.sendScript (TS.SendSt.init tls.chans tls.shms) = some st ∧
      (⟨st.tlsC, st.tlsR⟩ : Tls) = (ipcSend ⟨false⟩ osOk tx v tls eff).2.1 ∧
      st.ret = some (ipcSend ⟨false⟩ osOk tx v tls eff).1 := by
  refine (C14_send_script _ (osOk tx) tls.chans tls.shms).imp fun st ⟨h1, h2, h3, h4, _⟩ => ⟨h1, ?_, ?_⟩
  · rw [C14_tables, h2, h3]
  · rw [h4, (ipcSend_sent osOk tx v tls eff).1]

/-- **C14_nested_receive** — a receive issued inside another value's deserialisation is self-contained: for the regenerated order
of `OpaqueIpcMessage::to`, the enclosing decode's tables (`tlsC`, `tlsR` when the inner `to` is called) are exactly
what they were when it returns, whichever attachments the inner decode took and whether it failed. -/
theorem C14_nested_receive {α β : Type} (o : TS.DeOutcome) (tlsC msgC : List (Option α)) (tlsR msgR : List (Option β)) :
    (TS.runTo o Gen.toScript ⟨tlsC, tlsR, msgC, msgR, none, none⟩).tlsC = tlsC ∧
    (TS.runTo o Gen.toScript ⟨tlsC, tlsR, msgC, msgR, none, none⟩).tlsR = tlsR ∧
    (TS.runTo o Gen.toScript ⟨tlsC, tlsR, msgC, msgR, none, none⟩).msgC = TS.takeAll msgC o.takeC :=
  ⟨rfl, rfl, rfl⟩

/-- the order before the repair (`serialize_into(..)?` ahead of putting the tables back): a failing serialisation leaves
its pushes in the thread-local table and loses the enclosing send's -/
example : (TS.runSend (⟨[7], [], false⟩ : TS.SerOutcome Nat Nat) true
      [.saveChans, .saveRegions, .serializeProp, .restoreChans, .restoreRegions, .osSend] (TS.SendSt.init [1, 2] [])).map (·.tlsC)
    = some [7] := by decide +kernel

/-! ### sensitivity: the pre-fix code (D1), and non-vacuity -/

def allOk : Nat → Bool := fun _ => true
/-- outer value: sender 1, a nested send on channel 9 of [sender 2, fail], then receiver 3 -/
def vNestedFail : List Node := [.sender 1, .nested 9 [.sender 2, .fail], .receiver 3]

/-- legacy: the outer message carries the *inner* failed message's sender in position 0 (observed on the real pre-fix crate) -/
example : (ipcSend ⟨true⟩ allOk 0 vNestedFail ⟨[], []⟩ Eff.empty).2.2.sent
    = [⟨0, Wire.le 8 0 ++ Wire.le 8 1, [.snd 2, .rcv 3], []⟩] := by
  simp [ipcSend, ser, serNode, vNestedFail, allOk, Eff.empty]
/-- repaired: the outer message carries its own endpoints; the inner one's sender is released -/
example : ipcSend ⟨false⟩ allOk 0 vNestedFail ⟨[], []⟩ Eff.empty
    = (true, ⟨[], []⟩, ⟨[⟨0, Wire.le 8 0 ++ Wire.le 8 1, [.snd 1, .rcv 3], []⟩], [false], [.snd 2], []⟩) := by
  simp [ipcSend, ser, serNode, vNestedFail, allOk, Eff.empty]
/-- legacy: a failed send leaves the collected sender clone in the thread-local table -/
example : (ipcSend ⟨true⟩ allOk 0 [.sender 1, .fail] ⟨[], []⟩ Eff.empty).2.1 = ⟨[.snd 1], []⟩ := by
  simp [ipcSend, ser, serNode]

end C14
