import IpcModel.TableScript
import IpcModel.Wire
/-!
# C16 (continued) — the table handling of `OpaqueIpcMessage::to`, as the translator reads it from `src/ipc.rs`

This module does not import `Props/C16.lean` (the decoder theorems, shared with C01 and C04): a change to `to` touches only the
properties that are about it.
-/
namespace C16

/-! ### the statement order of the real `to`, regenerated from `src/ipc.rs` on every run -/

/-- **C16_to_script** — for the order of table operations the translator reads from `OpaqueIpcMessage::to` now
(`Gen.toScript`), whatever the thread-local tables hold when `to` is called (empty, or the tables of an enclosing `to`
whose `Deserialize` impl is receiving), whichever indices the decoder asks for (out of range, repeated) and whether it
fails: afterwards the thread-local tables are exactly what they were; the message keeps exactly the attachments that were
not handed out (they are dropped with the message when `to` returns: released, not kept open); the decode result is what
is returned. -/
theorem C16_to_script {α β : Type} (o : TS.DeOutcome) (tlsC msgC : List (Option α)) (tlsR msgR : List (Option β)) :
    (TS.runTo o Gen.toScript ⟨tlsC, tlsR, msgC, msgR, none, none⟩).tlsC = tlsC ∧
    (TS.runTo o Gen.toScript ⟨tlsC, tlsR, msgC, msgR, none, none⟩).tlsR = tlsR ∧
    (TS.runTo o Gen.toScript ⟨tlsC, tlsR, msgC, msgR, none, none⟩).msgC = TS.takeAll msgC o.takeC ∧
    (TS.runTo o Gen.toScript ⟨tlsC, tlsR, msgC, msgR, none, none⟩).msgR = TS.takeAll msgR o.takeR ∧
    (TS.runTo o Gen.toScript ⟨tlsC, tlsR, msgC, msgR, none, none⟩).ret = some o.ok :=
  ⟨rfl, rfl, rfl, rfl, rfl⟩

/-- what `get_mut(index).and_then(Option::take)` leaves behind: a requested slot is emptied, every other slot is untouched,
an index out of range touches nothing -/
theorem C16_takeAll_get {α : Type} (idx : List Nat) (l : List (Option α)) (i : Nat) :
    (TS.takeAll l idx)[i]? = if i ∈ idx then (l[i]?).map (fun _ => none) else l[i]? := by
  unfold TS.takeAll
  induction idx generalizing l with
  | nil => simp
  | cons j t ih =>
    rw [List.foldl_cons, ih, List.getElem?_set]
    by_cases hij : j = i
    · subst hij; by_cases hl : j < l.length <;> simp [hl]
    · simp [hij, Ne.symm hij]

theorem C16_takeAll_length {α : Type} (idx : List Nat) (l : List (Option α)) : (TS.takeAll l idx).length = l.length := by
  unfold TS.takeAll
  induction idx generalizing l with
  | nil => rfl
  | cons j t ih => rw [List.foldl_cons, ih, List.length_set]

/-- the shapes of the endpoint / region (de)serialisers the decoder model relies on, regenerated: the index written is the
table length before the push; an index is honoured only in range and once; `usize::MAX` stands for the empty region -/
theorem C16_shape : Gen.shape_serIndexBeforePush = true ∧ Gen.shape_takeChecked = true ∧ Gen.shape_shmEmptySentinel = true := by decide

/-- **C16_code_variant** — the decoder variant the theorems of `Props/C16.lean` are about (`Wire.Variant.legacy = false`: an index is
honoured only in range and once, otherwise an error — never a panic or a handle on an invalid descriptor) is the one the
source has now: every table lookup in the (de)serialisers goes through `get_mut(index).and_then(Option::take)`. -/
theorem C16_code_variant : (⟨!Gen.shape_takeChecked⟩ : Wire.Variant) = ⟨false⟩ := by decide

/-- the order of a change that returns the decode error before swapping back (`deserialize(..)?`): after a failed decode
the thread-local tables hold the message's attachments and the enclosing tables are lost -/
example : (TS.runTo (⟨[], [], false⟩ : TS.DeOutcome) [.swapChans, .swapRegions, .deserializeProp, .swapRegions, .swapChans]
      (⟨[some 1], [], [some 7, some 8], [], none, none⟩ : TS.ToSt Nat Nat)).tlsC = [some 7, some 8] := by decide +kernel

end C16
