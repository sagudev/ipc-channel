import IpcModel.Ledger.LP
import IpcModel.GenOwn
/-!
# C11 — no descriptor is leaked, closed twice or closed without being owned

Ledger model: descriptor numbers in creation order (never reused), sender clones as `Arc` groups with counts, handles
`snd arc | rcv fd | dead`.  Histories are arbitrary sequences of `install` (socketpair / accept / a descriptor received
through SCM_RIGHTS becomes a handle), `clone`, `drop` (also: an embedded receiver moved into a message and closed after
`sendmsg`).  The harness maps every public-API program to such a history and compares the number of open descriptors
after each step (`ledger` requests of the `world` scenario).
-/
namespace C11
open Ledger

/-- **C11_own** — after any history, every open descriptor the library created or received is owned by exactly one live handle
(or `Arc` group with a positive count), and every handle's descriptor is open (the 11-clause invariant `Inv`). -/
theorem C11_own (ops : List Op) (st : St) (h : run init ops = some st) : Inv st :=
  inv_run init st ops inv_init h

/-- **C11_restore** — once every handle has been dropped, every descriptor ever created or received is closed: nothing leaked. -/
theorem C11_restore (ops : List Op) (st : St) (h : run init ops = some st)
    (hall : ∀ (i : Nat) (hd : H), st.hs[i]? = some hd → hd = H.dead) : ∀ fd, fd < st.ofdOf.length → fd ∈ st.closed :=
  restore ops st h hall

/-- **C11_close_once** — the library closes only descriptors it owns, and never one twice: the list of closed descriptors
has no duplicates and every entry was a descriptor it had created or received. -/
theorem C11_close_once (ops : List Op) (st : St) (h : run init ops = some st) :
    st.closed.Nodup ∧ ∀ fd, fd ∈ st.closed → fd < st.ofdOf.length :=
  ⟨closed_nodup_run inv_init List.nodup_nil h, (inv_run init st ops inv_init h).closedBound⟩

/-- non-vacuity: a channel, a clone, everything dropped -/
example : (run init [.install 0 .snd, .install 0 .rcv, .clone 0, .drop 0, .drop 2, .drop 1]).map (fun s => (s.closed, s.hs))
    = some ([1, 0], [H.dead, H.dead, H.dead]) := by decide +kernel

/-- **C11_shape** — what the ledger model's operations assume about who owns a descriptor, regenerated from the source: a receiver
closes its descriptor when dropped unless it was consumed (moved into a message, a set or another receiver); sender clones
share one descriptor closed by the last clone; an attachment that was never converted into an endpoint closes its
descriptor; a set closes its members; a region closes its backing store once and unmaps exactly the mapped length; every
way a descriptor enters the process (socketpair, socket, accept4, recvmsg, dup, memfd) asks for close-on-exec. -/
theorem C11_shape : Gen.shape_receiverOwnsOnce = true ∧ Gen.shape_senderSharedDescriptor = true ∧ Gen.shape_opaqueOwnsUntilConverted = true ∧
    Gen.shape_setClosesMembers = true ∧ Gen.shape_regionReleases = true ∧ Gen.shape_everythingCloexec = true ∧
    Gen.shape_connectOwnsBeforeFallible = true := by decide

/-- who owns a receiver's descriptor after `OsIpcReceiverSet::add`, given the kernel's answer to the registration -/
inductive AddOwner | set | closedByReceiver | nobody
deriving Repr, DecidableEq

/-- `takeFirst`: the descriptor is taken out of the receiver before the (fallible) registration — the code before the repair (D21) -/
def addOwner (takeFirst registerOk : Bool) : AddOwner :=
  if registerOk then .set else if takeFirst then .nobody else .closedByReceiver

/-- **C11_set_add_never_orphans** — whatever the kernel answers to the registration, the descriptor handed to `add` has an owner afterwards: the set,
or the receiver (which is dropped on return and closes it) — for the order of the two statements regenerated from the source.
Before the repair a refused registration left it owned by nobody (open for ever). -/
theorem C11_set_add_never_orphans (registerOk : Bool) :
    Gen.shape_setAddOwnsAfterRegister = true ∧ addOwner (!Gen.shape_setAddOwnsAfterRegister) registerOk ≠ .nobody := by
  cases registerOk <;> decide

example : addOwner true false = .nobody := by decide

end C11
