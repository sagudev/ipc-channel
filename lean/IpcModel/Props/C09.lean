import IpcModel.Inproc
import IpcModel.NoHang
import IpcModel.Ideal
/-!
# C09 — sending to a vanished receiver fails cleanly; one in transit still counts
-/
namespace C09

/-- **C09_no_hang** — model of the dedicated socket during a multi-packet send (who references its receiving end: the sender's own copy,
the copy in flight in the first packet, the copy installed in the receiver; capacity-bounded queue): for the repaired code, in
every state satisfying the reference invariant in which the channel's receiving end no longer exists, the sender's next
step is enabled — it never waits on a socket that only it keeps alive. -/
theorem C09_no_hang (st : NoHang.St) (hI : NoHang.Inv ⟨false⟩ st) (hgone : st.receiverExists = false) :
    ∃ st' o, NoHang.step ⟨false⟩ st .sendStep = some (st', o) :=
  NoHang.no_hang st hI hgone

/-- the reference invariant holds in every reachable state -/
theorem C09_inv_step (V : NoHang.Variant) (st st' : NoHang.St) (a : NoHang.Act) (o : NoHang.Out)
    (hI : NoHang.Inv V st) (h : NoHang.step V st a = some (st', o)) : NoHang.Inv V st' :=
  NoHang.inv_step V st st' a o hI h

/-- **C09_code_variant** — the source as it is now is the variant `C09_no_hang` is about: the sender's own copy of the dedicated
receive end is released right after the first fragment went out (regenerated from `OsIpcSender::send`). -/
theorem C09_code_variant : NoHang.codeVariant.keepOwnRef = false := by decide

/-- … hence no hang for the code variant -/
theorem C09_no_hang_code (st : NoHang.St) (hI : NoHang.Inv NoHang.codeVariant st) (hgone : st.receiverExists = false) :
    ∃ st' o, NoHang.step NoHang.codeVariant st .sendStep = some (st', o) :=
  NoHang.no_hang_of _ C09_code_variant st hI hgone

/-- sensitivity (the pre-fix code, D11): a reachable state in which nothing is enabled — the sender blocked forever -/
example : NoHang.Inv ⟨true⟩ NoHang.stuck ∧ NoHang.step ⟨true⟩ NoHang.stuck .sendStep = none :=
  ⟨⟨fun _ => ⟨rfl, rfl⟩, nofun, nofun⟩, by decide⟩

open Ideal

/-- **C09_error** — specification: a send on a channel whose receiving end exists nowhere returns an error and queues nothing. -/
theorem C09_error (st : St) (c tag : Nat) (hs : List Handle) (ch : Chan) (hc : st.chans[c]? = some ch) (hsnd : 0 < ch.senders)
    (hgone : (rxAlive st).contains c = false) : (step st (.send c tag hs)).2 = .sendError := by
  simp only [step, hc, Nat.ne_of_gt hsnd, hgone, if_false, Bool.false_eq_true]

/-- **C09_transit** — specification: while the receiving end exists (held, or merely in transit inside an undelivered message on a live
channel), a send succeeds and is queued behind what was already there. -/
theorem C09_transit (st : St) (c tag : Nat) (ch : Chan) (hc : st.chans[c]? = some ch) (hsnd : 0 < ch.senders)
    (halive : (rxAlive st).contains c = true) :
    (step st (.send c tag [])).2 = .ok ∧
    ((step st (.send c tag [])).1.chans[c]?).map (·.queue) = some (ch.queue ++ [⟨tag, []⟩]) := by
  simp only [step, hc, Nat.ne_of_gt hsnd, halive, if_false, if_true]
  simp [Ideal.modify, markInMsg, hc]

/-- non-vacuity: the receiver of channel 1 travels inside a message on channel 0; a send to it succeeds and is delivered
after it has been unpacked -/
example : (Ideal.run [.newChan, .newChan, .send 0 1 [.rcv 1], .send 1 7 [], .recv 0, .recv 1]).2
    = [.ok, .ok, .ok, .ok, .msg 1 [.rcv 1], .msg 7 []] := by decide +kernel

/-- **C09_inproc_never_waits** — on the in-process transport a send is one operation on an unbounded queue (regenerated), so it cannot wait for
a receiver that has vanished; its only failure is the queue's "no receiver" (`BrokenPipeError`). -/
theorem C09_inproc_never_waits : Gen.inprocUnbounded = true ∧ Gen.inprocSendPassesThrough = true := by decide

end C09
