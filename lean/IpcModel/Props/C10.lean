import IpcModel.Inproc
import IpcModel.Timed
import IpcModel.GenTimed
/-!
# C10 — non-blocking and timed receives never block, miss a message, or poison

Model `Timed`: `UnixCmsg::recv`'s three modes over a kernel socket with an `O_NONBLOCK` flag on the open file
description; `poll` may report a time-out only if nothing was ready for the whole wait (`pollConsistent`).
The order "set the flag — recvmsg — clear the flag", "poll time-out ⇒ EAGAIN", the poll event mask and the unit in
which the duration is handed to `poll` are regenerated from the source on every run (`Gen.shape_*`, `Gen.pollUnit*`).
The system calls `Timed.call` lists are compared with the interposed trace of the real crate (scenario `timed`).

Not reached by a theorem: that the kernel's `poll` really waits the time it was given (lower bound checked on the real
system by the oracle) and the wake-up when a message or closure arrives during the wait (exercised with threads).
-/
namespace C10
open Timed

theorem C10_flag (k : K) (m : Mode) (b : Bool) (h : k.nonblock = false) : (recvFirst k m b).2.nonblock = false :=
  flag_restored k m b h

theorem C10_try (k : K) (b : Bool) :
    (recvFirst k .nonblocking b).1 ≠ .blocks ∧
    (∀ t q, k.queue = (t, true) :: q → (recvFirst k .nonblocking b).1 = .msg t) ∧
    (k.queue = [] → k.peerAlive = true → (recvFirst k .nonblocking b).1 = .empty) ∧
    (k.queue = [] → k.peerAlive = false → (recvFirst k .nonblocking b).1 = .disconnected) ∧
    (∀ t, (recvFirst k .nonblocking b).1 = .waitsSender t → ∃ q, k.queue = (t, false) :: q) :=
  try_outcome k b

theorem C10_timeout (k : K) (us : Nat) (b : Bool) (hk : k.nonblock = false) (hc : pollConsistent k b) :
    ((recvFirst k (.timeout us) b).1 = .empty → b = true) ∧
    (∀ t q, k.queue = (t, true) :: q → (recvFirst k (.timeout us) b).1 = .msg t) ∧
    (k.queue = [] → k.peerAlive = false → (recvFirst k (.timeout us) b).1 = .disconnected) :=
  timeout_outcome k us b hk hc

/-- **C10_no_poison** — after any sequence of the three calls with any outcomes, a blocking receive on an idle connected channel blocks
(waits for a message) instead of failing. -/
theorem C10_no_poison (k : K) (calls : List (Mode × Bool)) (h : k.nonblock = false) :
    let k' := calls.foldl (fun k c => (recvFirst k c.1 c.2).2) k
    k'.queue = [] → k'.peerAlive = true → (recvFirst k' .blocking false).1 = .blocks :=
  later_blocking_blocks k calls h

/-- **C10_no_miss** — no call of any mode loses, duplicates or reorders a queued message. -/
theorem C10_no_miss (k : K) (m : Mode) (b : Bool) :
    tagOf (recvFirst k m b).1 ++ (recvFirst k m b).2.queue.map Prod.fst = k.queue.map Prod.fst := by
  cases m <;> simp only [recvFirst, recvFirstR_spec]
  · exact recvmsg_conserves k
  · exact recvmsg_conserves { k with nonblock := true }
  · split
    · rfl
    · exact recvmsg_conserves k

/-- **C10_wait** — the wait handed to the kernel by `try_recv_timeout(d)` is `d` rounded down to whole milliseconds
(or unbounded when it does not fit a C int), for the conversion found in the source on this run. -/
theorem C10_wait (us : Nat) :
    pollArg us = -1 ∨ (0 ≤ pollArg us ∧ pollArg us * 1000 ≤ (us : Int) ∧ (us : Int) < (pollArg us + 1) * 1000) :=
  pollArg_granularity us (by decide) (by decide)

/-- **C10_no_early_eof** — the kernel may report end of file while a packet queued by a peer that closed right afterwards is still in the
queue (it looks at the queue first and at the shutdown flag afterwards; `race = true`).  In the variant of the source
(end of file confirmed by a second, non-blocking look — `C10_shape`), whatever the receive mode and whether or not the race
happens: `disconnected` is answered only when nothing is queued and no sender is left, and every answer is the one the
race-free kernel would have given. -/
theorem C10_no_early_eof (k : K) (m : Mode) (b race : Bool) :
    ((recvFirstR k m b race).1 = .disconnected → k.queue = [] ∧ k.peerAlive = false) ∧
    recvFirstR k m b race = recvFirst k m b :=
  ⟨disconnected_only_when_drained k m b race, by rw [recvFirst, recvFirstR_spec, recvFirstR_spec]⟩

/-- the system calls of one receive (compared with the interposed trace): one recvmsg, two when the first reported end of file -/
theorem C10_trace_shape (k : K) (m : Mode) (b race : Bool) :
    let rr := (callV true k m b race).1
    rr = [.recvmsg] ∨ rr = [.recvmsg, .recvmsg] ∨ rr = [.setNB, .recvmsg, .clearNB] ∨ rr = [.setNB, .recvmsg, .recvmsg, .clearNB] ∨
    (∃ us, m = .timeout us ∧ (rr = [.poll (pollArg us)] ∨ rr = [.poll (pollArg us), .recvmsg] ∨ rr = [.poll (pollArg us), .recvmsg, .recvmsg])) := by
  cases m <;> simp only [trace_shape]
  · split
    · exact .inr (.inl rfl)
    · exact .inl rfl
  · split
    · exact .inr (.inr (.inr (.inl rfl)))
    · exact .inr (.inr (.inl rfl))
  · refine .inr (.inr (.inr (.inr ⟨_, rfl, ?_⟩)))
    split
    · exact .inl rfl
    · split
      · exact .inr (.inr rfl)
      · exact .inr (.inl rfl)

/-- shape facts regenerated from `UnixCmsg::recv` on every run -/
theorem C10_shape : Gen.shape_nonblockSetBefore = true ∧ Gen.shape_nonblockClearedAfter = true ∧
    Gen.shape_pollTimeoutIsEagain = true ∧ Gen.shape_pollEvents = true ∧ Gen.shape_eofConfirmed = true := by decide

/-- non-vacuity: a concrete idle connected channel in blocking mode; `try_recv` says empty and leaves the flag clear,
a 1.5 ms timed receive polls for 1 ms -/
example : (recvFirst ⟨[], true, false⟩ .nonblocking false) = (.empty, ⟨[], true, false⟩) := by decide
example : pollArg 1500 = 1 := by decide
example : (call ⟨[(7, true)], true, false⟩ (.timeout 1500) false).1 = [.poll 1, .recvmsg] := by decide

/-- sensitivity (the code before the repair, D16): without the confirming look a message queued just before the close is overtaken by
`disconnected` in the race window; with it the message is delivered -/
example : (callV false ⟨[(7, true)], false, false⟩ .nonblocking false true).2.1 = .disconnected := by decide
example : (callV true ⟨[(7, true)], false, false⟩ .nonblocking false true).2.1 = .msg 7 := by decide

/-- sensitivity: the variant that forgets to clear the flag poisons a later blocking receive (it would answer `empty`, an
error, instead of blocking) -/
example : (Timed.recvmsg ⟨[], true, true⟩).1 = .empty := by decide

/-- **C10_inproc** — the in-process transport's three receive flavours (regenerated call and error arms): each makes the crossbeam
call of its own kind (`recv` / `try_recv` / `recv_timeout(duration)`, so the polling ones cannot block beyond their budget),
returns a queued message as a message, and reports "empty" exactly for empty / timed out. -/
theorem C10_inproc (c : Gen.XCall) (x : Inproc.XB) (h : Inproc.possible c x = true) :
    Inproc.callOf c = c ∧ (x = .msg → Inproc.codeAnswer c x = .message) ∧
    (Inproc.codeAnswer c x = .empty ↔ (x = .empty ∨ x = .timeout)) :=
  ⟨(Inproc.code_answers c x h).2, fun hx => (Inproc.code_answers c x h).1.trans (hx ▸ rfl), Inproc.empty_iff c x h⟩

end C10
