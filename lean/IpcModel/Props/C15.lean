import IpcModel.Cmsg
import IpcModel.Props.C13
/-!
# C15 — messages with too many attachments for one message are refused, not mangled

`osSend sys len nfds faults` is `OsIpcSender::send` with `nfds` attached descriptors (channel endpoints and regions);
`kernelDeliver`/`recvSplit` model what the kernel hands to the receiver's control buffer and how `recv` sorts it.
The order in which `send` collects the descriptors, which `Cmsg.sendFds` mirrors, is the regenerated shape fact
`C13.C13_shape_fdOrder`: this module imports `Props/C13` so that it is checked only together with it.
-/
namespace C15
open Cmsg Frag Gen

/-- **C15_limits** — the generated refusals are exactly the receiver's capacity: a message is refused iff its descriptors
(plus the dedicated socket when it must be fragmented) exceed `MAX_FDS_IN_CMSG`; and that capacity is within what one
control message can carry at all (`SCM_MAX_FD`). -/
theorem C15_limits (nfds : Nat) :
    (refuseAll nfds = true ↔ maxFdsInCmsg < nfds) ∧ (refuseFrag nfds = true ↔ maxFdsInCmsg < nfds + 1) ∧
    maxFdsInCmsg ≤ scmMaxFd := by
  exact ⟨by simp [refuseAll], by simp [refuseFrag], by decide⟩

theorem beforeSock_sendLoop (sys len : Nat) (faults : List Fault) (h : isFrag (sendLoop sys len faults).2 = true) :
    deliv (beforeSock (sendLoop sys len faults).2) = [] := by
  rcases sendLoop_cases sys len faults with ⟨_, he⟩ | ⟨pre, _, _, _, he, _, hE⟩ <;> rw [he] at h ⊢
  · cases h
  · rcases hE.pre_eq with rfl | rfl <;> rfl

/-- what acceptance implies: the counts fit, and the send is the plain transmission loop of C13/C01 -/
theorem osSend_ok (sys len nfds : Nat) (faults : List Fault) (hok : (osSend sys len nfds faults).1 = .ok) :
    nfds ≤ maxFdsInCmsg ∧ (isFrag (sendLoop sys len faults).2 = true → nfds + 1 ≤ maxFdsInCmsg) ∧
    osSend sys len nfds faults = sendLoop sys len faults := by
  have ⟨hall, hfrag, _⟩ := C15_limits nfds
  simp only [osSend] at hok ⊢
  by_cases h1 : refuseAll nfds = true
  · rw [if_pos h1] at hok; cases hok
  · rw [if_neg h1] at hok ⊢
    by_cases h2 : (isFrag (sendLoop sys len faults).2 && refuseFrag nfds) = true
    · rw [if_pos h2] at hok; cases hok
    · rw [if_neg h2]
      have hnr : isFrag (sendLoop sys len faults).2 = true → refuseFrag nfds ≠ true := fun hf hr => h2 (by rw [hf, hr]; rfl)
      exact ⟨Nat.le_of_not_lt (mt hall.2 h1), fun hf => Nat.le_of_not_lt (mt hfrag.2 (hnr hf)), rfl⟩

/-- **C15_refuse** — a message whose attachments (plus the dedicated socket if it has to be fragmented) do not fit one
message is rejected with an error, and no packet of it reaches the receiver: the channel is exactly as before. -/
theorem C15_refuse (sys len nfds : Nat) (faults : List Fault)
    (h : maxFdsInCmsg < nfds ∨ (isFrag (sendLoop sys len faults).2 = true ∧ maxFdsInCmsg < nfds + 1)) :
    (osSend sys len nfds faults).1 = .err ∧ deliv (osSend sys len nfds faults).2 = [] := by
  have ⟨hall, hfrag, _⟩ := C15_limits nfds
  simp only [osSend]
  by_cases h1 : refuseAll nfds = true
  · rw [if_pos h1]; exact ⟨rfl, rfl⟩
  · rcases h with h | ⟨hf, hn⟩
    · exact absurd (hall.2 h) h1
    · rw [if_neg h1, hf, hfrag.2 hn]
      exact ⟨rfl, beforeSock_sendLoop sys len faults hf⟩

/-- a descriptor list within the receiver's capacity arrives whole, and `recv` sorts it back into channels, regions and
the dedicated socket (the last socket, present iff the message is fragmented) -/
theorem deliver_split (chans shms : List Fd) (o : Option Fd)
    (hc : ∀ c ∈ chans, c.sock = true) (hs : ∀ s ∈ shms, s.sock = false) (ho : ∀ x ∈ o, x.sock = true)
    (hlen : chans.length + shms.length + o.toList.length ≤ maxFdsInCmsg) :
    kernelDeliver (sendFds chans shms o) = some (sendFds chans shms o) ∧
    recvSplit (sendFds chans shms o) o.isSome = some (chans, shms, o) := by
  have ⟨h1, h2⟩ := ListLookup.filter_append_append (p := (·.sock)) hc hs (c := o.toList) (by simpa using ho)
  have hlen : (sendFds chans shms o).length ≤ maxFdsInCmsg := by
    unfold sendFds; rw [List.length_append, List.length_append]; exact hlen
  constructor
  · unfold kernelDeliver
    rw [if_neg (Nat.not_lt.2 (Nat.le_trans hlen (by decide))), List.take_of_length_le hlen]
  · unfold recvSplit sendFds
    rw [h1, h2]
    cases o <;> simp

/-- **C04_fd_order / C15_accept_all** — any message `send` accepts arrives with *all* its attachments, in order, the
channel endpoints as channels and the regions as regions, and the dedicated socket (present iff the message is
fragmented) is the one `recv` pops: nothing is truncated by the kernel or mis-assigned. -/
theorem C15_accept_all (sys len : Nat) (faults : List Fault) (chans shms : List Fd) (ded : Fd)
    (hc : ∀ c ∈ chans, c.sock = true) (hs : ∀ s ∈ shms, s.sock = false) (hd : ded.sock = true)
    (hok : (osSend sys len (chans.length + shms.length) faults).1 = .ok) :
    kernelDeliver (sendFds chans shms (if isFrag (osSend sys len (chans.length + shms.length) faults).2 then some ded else none))
      = some (sendFds chans shms (if isFrag (osSend sys len (chans.length + shms.length) faults).2 then some ded else none)) ∧
    recvSplit (sendFds chans shms (if isFrag (osSend sys len (chans.length + shms.length) faults).2 then some ded else none))
        (isFrag (osSend sys len (chans.length + shms.length) faults).2)
      = some (chans, shms, if isFrag (osSend sys len (chans.length + shms.length) faults).2 then some ded else none) := by
  obtain ⟨h1, h3, heq⟩ := osSend_ok sys len _ faults hok
  rw [heq]
  cases hf : isFrag (sendLoop sys len faults).2
  · exact deliver_split chans shms none hc hs nofun h1
  · exact deliver_split chans shms (some ded) hc hs (by simpa using hd) (h3 hf)

/-! ### sensitivity: the pre-fix code (no refusal) — the kernel model then drops descriptors silently -/
example : kernelDeliver (List.replicate 65 ⟨true, 0⟩) = some (List.replicate 64 ⟨true, 0⟩) := by decide +kernel
/-- … and a fragmented message with 64 attachments loses its dedicated socket: `recv` pops a user channel instead -/
example : (kernelDeliver ((List.replicate 64 ⟨true, 1⟩) ++ [⟨true, 99⟩])).map (fun l => recvSplit l true)
    = some (some (List.replicate 63 ⟨true, 1⟩, [], some ⟨true, 1⟩)) := by decide +kernel
/-- non-vacuity: 63 attachments on a fragmented message are accepted -/
example : (osSend 4608 13000 63 []).1 = .ok :=
  sendLoop_nofault 4608 13000 [] (by decide) (by decide) nofun

end C15
