import IpcModel.Lemmas.RegRefine
import IpcModel.InprocSet
import IpcModel.InprocReg
import IpcModel.Inproc
import IpcModel.Lemmas.RefineRun
import IpcModel.GenIpc
import IpcModel.GenOwn
/-!
# C19 — all transports give the same answers, those of an ideal FIFO

Two executable readings of the same programs (create, clone, send handles inside messages to any depth, receive, drop):

* `Ideal` — the specification, which is also what the in-process transport does: dropping a receiver destroys its queue,
  the receivers inside the queued messages, their queues, and so on (explicit cascade `dropHandles`);
* `Unix` — what the OS transports do: dropping a receiver closes one descriptor, a send closes the descriptors of the
  embedded receivers afterwards; whether a socket still exists is the kernel's reachability from the descriptor table
  through queued packets.  Nothing is ever destroyed in user space.

`C19_refine`: for every valid program the two give the same result for every operation.  "Valid" = the program embeds
only receivers it holds, each once (`Unix.validOp`; what the type system enforces for `IpcReceiver`, which is neither
`Clone` nor usable after a move).  The harness runs the same seeded programs on the OS, memfd and in-process builds and
compares the OS builds with `Unix.run`, all builds with `Ideal.run`, and checks `Unix.valid` for each program.

The rest of the file is about the in-process transport's own code, which neither reading covers: the error arms of its
receive calls (`C19_inproc`), its rendezvous registry against the OS rendezvous (`C19_inproc_rendezvous`,
`C19_rendezvous_same_answers`) and the ids of its receiver sets (`C19_inproc_set_ids`).
-/
namespace C19
open Ideal (Op Res)

/-- **C19_refine** — descriptor-level transport ⊑ specification, for all programs. -/
theorem C19_refine (ops : List Op) (hv : Unix.valid ops = true) : (Unix.run ops).2 = (Ideal.run ops).2 :=
  Refine.refine_run ops hv

/-- one step: related states and a valid operation give the same result and related states -/
theorem C19_step (u : Unix.St) (i : Ideal.St) (hR : Refine.Rel u i) (op : Op) (hv : Unix.validOp u op = true) :
    (Unix.step u op).2 = (Ideal.step i op).2 ∧ Refine.Rel (Unix.step u op).1 (Ideal.step i op).1 :=
  Refine.sim_step u i hR op hv

/-- in related states exactly the same receiving ends exist, with equal queues — so a send fails in one iff in the other
and a receive sees the same backlog -/
theorem C19_same_world (u : Unix.St) (i : Ideal.St) (hR : Refine.Rel u i) (c : Nat) :
    ((Unix.alive u).contains c = (Ideal.rxAlive i).contains c) ∧ (Unix.senderOpen u c = Ideal.senderExists i c) :=
  ⟨Refine.alive_eq hR c, Refine.senderOpen_eq hR c⟩

/-- the fixed-point iteration used by both models computes reachability (no fuel artefact) -/
theorem C19_alive_is_reachability (i : Ideal.St) (c : Nat) :
    c ∈ Ideal.rxAlive i ↔ Reach.ReachG i.chans.length (Ideal.rootB i) (Ideal.edgeB i) c := Refine.mem_rxAlive i c

/-- receiver handles stay unique at descriptor level: held by the program or inside exactly one queued message -/
theorem C19_receivers_unique (ops : List Op) (hv : Unix.validFrom ⟨[]⟩ ops = true) :
    Refine.UInv (ops.foldl (fun s op => (Unix.step s op).1) ⟨[]⟩) :=
  (Refine.refine_states ops Refine.rel_init hv).inv

/-- **C19_shape** — what the two readings assume about handles, regenerated from the source: embedding a sender in a message clones it
and embedding a region clones it, embedding a receiver moves it out of the program's hands at serialisation time (so it is
gone whatever happens to the send — `Unix.unhold` / `Ideal.markInMsg`); a receiver owns its descriptor and closes it exactly
once unless consumed, sender clones share one descriptor closed by the last of them, an attachment never converted into
an endpoint closes its descriptor (so a discarded or undecoded message releases what it carried). -/
theorem C19_shape : Gen.shape_embedClonesSenderMovesReceiver = true ∧ Gen.shape_receiverOwnsOnce = true ∧
    Gen.shape_senderSharedDescriptor = true ∧ Gen.shape_opaqueOwnsUntilConverted = true := by decide

/-! non-vacuity: a valid program with a receiver travelling inside a message whose carrying receiver is then dropped
(the cascade destroys the inner channel; at descriptor level it merely becomes unreachable), and a cycle (a receiver sent
over its own channel) -/
def demo : List Op :=
  [.newChan, .newChan, .newChan, .send 1 7 [.snd 2], .send 0 1 [.rcv 1, .snd 2], .dropSender 2, .recv 2, .send 1 8 [],
   .dropReceiver 0, .send 1 9 [], .recv 2, .newChan, .send 3 5 [.rcv 3], .send 3 6 []]
theorem demo_valid : Unix.valid demo = true := by decide +kernel
example : Unix.valid demo = true := demo_valid
example : (Unix.run demo).2 = [.ok, .ok, .ok, .ok, .ok, .ok, .empty, .ok, .ok, .sendError, .disconnected, .ok, .ok, .sendError] := by decide +kernel
example : (Ideal.run demo).2 = (Unix.run demo).2 := (C19_refine demo demo_valid).symm
/-- the states differ on what no longer exists (the specification emptied channel 1's queue, the kernel still holds the
unreachable packets), which is why the relation compares only what exists -/
example : ((Unix.run demo).1.chans.map (·.queue.length), (Ideal.run demo).1.chans.map (·.queue.length)) = ([1, 2, 0, 1], [0, 0, 0, 1]) := by decide +kernel

/-- **C19_inproc** — the third transport: the in-process one answers what its queue answers (`Inproc.spec`), for every receive flavour
and outcome, and its statement facts match the ideal channel's rules (unbounded queue, a moved receiver leaves nothing
behind, `send` passes data / channels / regions on as given) — all regenerated from the source. -/
theorem C19_inproc (c : Gen.XCall) (x : Inproc.XB) (h : Inproc.possible c x = true) :
    Inproc.codeAnswer c x = Inproc.spec x ∧
    (Gen.inprocUnbounded = true ∧ Gen.inprocConsumeTakes = true ∧ Gen.inprocSendPassesThrough = true ∧ Gen.inprocAddMoves = true) :=
  ⟨(Inproc.code_answers c x h).1, Inproc.shape⟩

/-- **C19_inproc_rendezvous** — one-shot servers on the in-process transport answer a connect as the OS transports do (`OneShot.step`'s rule:
success iff a server with that name is still listening): success iff the server is still waiting, an error otherwise,
never a panic (registry operations regenerated from the source; the two models are compared with the real builds by the
registry scripts of the `oneshotip` scenario). -/
theorem C19_inproc_rendezvous (ops : List InprocReg.Op) (n : Nat) :
    InprocReg.codeVariant = InprocReg.fixed ∧
    (InprocReg.step InprocReg.fixed (InprocReg.run InprocReg.fixed ops).1 (.connect n)).2
      = (if (InprocReg.run InprocReg.fixed ops).1.phase[n]? = some .live then .connected n else .err) ∧
    InprocReg.Res.panic ∉ (InprocReg.run InprocReg.fixed ops).2 :=
  ⟨InprocReg.code_variant.1, (InprocReg.connect_spec ops n).1, InprocReg.no_panic ops⟩

/-- **C19_inproc_set_ids** — receiver sets on the in-process transport: ids come from a counter that only grows (regenerated), so after any history
of additions and closures no two members of a set share an id (on the OS transports that is an assumption of C06, checked by
the harness), and a closed member leaves both parallel vectors at the same index. -/
theorem C19_inproc_set_ids (ops : List InprocSet.Op) :
    (InprocSet.run Gen.inprocSetIdsFromCounter ops).ids.Nodup ∧ Gen.inprocSetParallelRemove = true := by
  have h := InprocSet.code_shape
  exact ⟨by rw [h.1]; exact InprocSet.ids_distinct ops, h.2⟩

/-- **C19_rendezvous_same_answers** — the OS rendezvous (`OneShot`: listening sockets bound to names) and the in-process registry (`InprocReg`, variant
regenerated from the source and equal to `fixed` by `C19_inproc_rendezvous`) driven by the same client program — any sequence of new /
connect / send / close / accept / drop server / receive / drop receiver in which every `new` succeeds, `accept` and `drop` acting
on the registry exactly when they complete — give every `connect`, to any name, after any history, the same answer: connected
on one iff connected on the other, an error on one iff an error on the other (simulation relation `RegRefine.Rel`). -/
theorem C19_rendezvous_same_answers (ops : List OneShot.Op) (hnew : ∀ op ∈ ops, ∀ k, op ≠ OneShot.Op.new (k + 1)) (n : Nat) :
    let p := RegRefine.runBoth (⟨[], [], 0⟩, ⟨[], [], false⟩) ops
    ((∃ c, (OneShot.step p.1 (.connect n)).2 = .conn c) ↔ (InprocReg.step InprocReg.fixed p.2 (.connect n)).2 = .connected n) ∧
    ((OneShot.step p.1 (.connect n)).2 = .err ↔ (InprocReg.step InprocReg.fixed p.2 (.connect n)).2 = .err) :=
  RegRefine.connect_same_answer ops hnew n

/-- non-vacuity: two servers; the first accepts a client, the second is dropped unused, a third stays: connects to 0, 1, 7 fail on both,
a connect to 2 succeeds on both -/
def demoBoth : OneShot.St × InprocReg.St :=
  RegRefine.runBoth (⟨[], [], 0⟩, ⟨[], [], false⟩) [.new 0, .new 0, .connect 0, .csend 0 5, .accept 0, .dropServer 1, .new 0]
example :
    ((OneShot.step demoBoth.1 (.connect 0)).2, (OneShot.step demoBoth.1 (.connect 1)).2, (OneShot.step demoBoth.1 (.connect 7)).2,
     (OneShot.step demoBoth.1 (.connect 2)).2)
    = (.err, .err, .err, .conn 1) := by decide +kernel
example :
    ((InprocReg.step InprocReg.fixed demoBoth.2 (.connect 0)).2, (InprocReg.step InprocReg.fixed demoBoth.2 (.connect 1)).2,
     (InprocReg.step InprocReg.fixed demoBoth.2 (.connect 7)).2, (InprocReg.step InprocReg.fixed demoBoth.2 (.connect 2)).2)
    = (.err, .err, .err, .connected 2) := by decide +kernel

end C19
