import IpcModel.Inproc
import IpcModel.Ledger.LP
import IpcModel.Ideal
import IpcModel.Lemmas.RefineRun
import IpcModel.Timed
/-!
# C03 — disconnection is reported exactly when no sender can exist any more

Three layers.  (1) `Ledger`: the open descriptors of a process are exactly those owned by live handles (`roots_coincide`) —
so the kernel's notion "the peer is still referenced" (reachability from descriptor tables through queued packets) and
the specification's notion "a sender handle exists" (reachability from program-held handles through queued messages) start
from the same roots and run over the same queues.  (2) `Ideal`: the specification itself, whose receive result is
`disconnected` iff the queue is empty and no sender handle exists.

(3) `Unix ⊑ Ideal` (`C03_refine`, proved in `Lemmas/Refine*.lean`): the descriptor-level reading of a program — handles are
descriptors, dropping closes one descriptor, the kernel decides by reachability which sockets exist, nothing is destroyed
in user space — gives the same result for every operation of every valid program as the specification with its explicit
destruction cascade; in particular `disconnected` / `empty` / the delivered messages coincide.  The step from the real
crate to `Unix` is the correspondence check: the OS builds are run on seeded programs and compared with `Unix.run`.

Below these, two facts about the code that answers a single receive: on the kernel socket an end of file is confirmed by a
second look before `disconnected` is answered (`C03_eof_confirmed`, model `Timed`), and the in-process transport passes on
what its queue said (`C03_inproc`, model `Inproc`).
-/
namespace C03

/-- **C03_roots** — after any history of handle operations, a descriptor is open iff a live handle owns it. -/
theorem C03_roots (ops : List Ledger.Op) (st : Ledger.St) (h : Ledger.run Ledger.init ops = some st) (fd : Nat) :
    Ledger.isOpen st fd ↔ Ledger.Owned st fd :=
  Ledger.roots_coincide ops st h fd

/-- **C03_refine** — for every valid program (it embeds only receivers it holds, each once) the descriptor-level reading and
the specification answer every operation alike: messages, `empty`, `disconnected`, send failures. -/
theorem C03_refine (ops : List Ideal.Op) (hv : Unix.valid ops = true) : (Unix.run ops).2 = (Ideal.run ops).2 :=
  Refine.refine_run ops hv

/-- descriptor level, stated directly: a receive on a held receiver reports `disconnected` exactly when nothing is queued and
the sending socket exists nowhere — no descriptor for it is open and none is in flight towards a socket that exists. -/
theorem C03_unix_iff (u : Unix.St) (c : Nat) (ch : Unix.Chan) (hc : u.chans[c]? = some ch) (hh : ch.held = true) :
    ((Unix.step u (.recv c)).2 = .disconnected ↔ ch.queue = [] ∧ Unix.senderOpen u c = false) := by
  simp only [Unix.step, hc, hh]
  cases hq : ch.queue with
  | nil => by_cases hs : Unix.senderOpen u c = true <;> simp [hs]
  | cons m q => simp

open Ideal

/-- **C03_iff** — the specification: a receive on a held receiver answers `disconnected` exactly when the queue is empty and no
sender handle of the channel exists anywhere (held, cloned, or in transit inside a message whose carrying receiver exists);
`empty` exactly when the queue is empty and one does; otherwise the oldest message — so disconnection comes only after
every earlier message. -/
theorem C03_iff (st : St) (c : Nat) (ch : Chan) (hc : st.chans[c]? = some ch) (hr : ch.rx = .held) :
    ((step st (.recv c)).2 = .disconnected ↔ ch.queue = [] ∧ senderExists st c = false) ∧
    ((step st (.recv c)).2 = .empty ↔ ch.queue = [] ∧ senderExists st c = true) ∧
    (∀ m q, ch.queue = m :: q → (step st (.recv c)).2 = .msg m.tag m.handles) := by
  simp only [step, hc, hr]
  cases hq : ch.queue with
  | nil => by_cases hs : senderExists st c = true <;> simp [hs]
  | cons m q => simp

/-- a sender handle held by the program keeps the channel connected -/
theorem C03_held_sender_connected (st : St) (c : Nat) (ch : Chan) (hc : st.chans[c]? = some ch) (hs : 0 < ch.senders) :
    senderExists st c = true := by
  simp [senderExists, hc, hs]

/-- non-vacuity: the last program-held sender is dropped while a clone is in transit inside an undelivered message —
still `empty`; after the carrying receiver is dropped — `disconnected` -/
example : (Ideal.run [.newChan, .newChan, .send 0 1 [.snd 1], .dropSender 1, .recv 1, .dropReceiver 0, .recv 1]).2
    = [.ok, .ok, .ok, .ok, .empty, .ok, .disconnected] := by decide +kernel

/-- **C03_eof_confirmed** — "only after every message sent before that has been delivered", at the level of one receive call on the kernel
socket: the kernel can report end of file while a packet queued by a peer that closed right afterwards is still queued; the
source confirms an end of file with a second look (`Gen.shape_eofConfirmed`), and then `disconnected` is answered only when
the queue is empty and no sender is left, in every receive mode, race or no race. -/
theorem C03_eof_confirmed (k : Timed.K) (m : Timed.Mode) (b race : Bool) (h : (Timed.recvFirstR k m b race).1 = .disconnected) :
    k.queue = [] ∧ k.peerAlive = false ∧ Gen.shape_eofConfirmed = true :=
  ⟨(Timed.disconnected_only_when_drained k m b race h).1, (Timed.disconnected_only_when_drained k m b race h).2, by decide⟩

/-- **C03_inproc** — on the in-process transport (error arms regenerated from `src/platform/inprocess/mod.rs` and the `From`
conversions): whichever receive flavour is used, the public answer is "disconnected" exactly when the channel's queue reported
disconnection — which crossbeam does only for an empty queue with every sender gone — and never "empty" in that case. -/
theorem C03_inproc (c : Gen.XCall) (x : Inproc.XB) (h : Inproc.possible c x = true) :
    (Inproc.codeAnswer c x = .disconnected ↔ x = .disconnected) ∧ (x = .disconnected → Inproc.codeAnswer c x ≠ .empty) := by
  refine ⟨Inproc.disconnected_iff c x h, ?_⟩
  intro hx
  rw [(Inproc.code_answers c x h).1, hx]
  decide

end C03
