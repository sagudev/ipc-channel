import IpcModel.Lemmas.WireProof
/-!
# C16 — undecodable or mismatched payloads produce errors, not panics or leaks

`toValue V fuel s bytes atts regions` models `OpaqueIpcMessage::to::<T>()`: bincode decoding of *arbitrary* bytes against
the schema of `T`, resolving endpoint indices in the message's own attachment slots.  Theorems are about the repaired
code (`legacy = false`); the `legacy = true` variant reproduces the defects that were fixed, as sensitivity examples.
-/
namespace C16
open Wire

/-- **C16_total** — decoding never panics: for every expected type, every byte string, every attachment list
(out-of-range indices, indices used twice, wrong types, truncated data … all yield `err` or `ok`). -/
theorem C16_total (fuel : Nat) (s : Schema) (bytes : Bytes) (atts : List Att) (regions : List Nat) :
    toValue ⟨false⟩ fuel s bytes atts regions ≠ .panic :=
  (dec_ne_panic_all fuel).1 s bytes _

/-- **C16_sound / C16_release** — if decoding succeeds, the endpoints and regions inside the value are exactly attachments of
this message, each handed out at most once (the attachment list is a permutation of *handed out ++ still in the slots*),
and no handle on an invalid descriptor is produced.  What is still in the slots is released when the message is dropped. -/
theorem C16_sound (fuel : Nat) (s : Schema) (bytes : Bytes) (atts : List Att) (regions : List Nat)
    (v : Value) (rest : Bytes) (sl : Slots) (h : toValue ⟨false⟩ fuel s bytes atts regions = .ok v rest sl) :
    atts.Perm (chans v ++ (leftover sl).1) ∧ regions.Perm (shms v ++ (leftover sl).2) ∧ hasBogus v = false := by
  simpa [Sound, leftover] using (dec_sound_all fuel).1 s bytes _ v rest sl h

/-- **C16_roundtrip** (shared with C01/C04) — a well-typed value decodes to itself from its own encoding, and consumes exactly its
own attachments, whatever else is in the slots. -/
theorem C16_roundtrip (v : Value) (s : Schema) (h : HasType v s) (r : Bytes) (fuel : Nat) (hf : vsize v < fuel)
    (hc : (chans v).length < 256 ^ 8) (hs : (shms v).length < USIZE_MAX) :
    toValue ⟨false⟩ fuel s (enc v 0 0 ++ r) (chans v) (shms v)
      = .ok v r ⟨(chans v).map fun _ => none, (shms v).map fun _ => none⟩ := by
  simpa [toValue, usedC, usedS] using dec_enc v s h [] [] [] [] r fuel hf (by simpa using hc) (by simpa using hs)

/-! ### non-vacuity and sensitivity (the pre-fix code) -/

/-- D3: `u64 = 5` received as `IpcSender` — the legacy lookup panics, the repaired one reports an error -/
example : toValue ⟨true⟩ 5 .sender (le 8 5) [] [] = .panic := by rfl
example : toValue ⟨false⟩ 5 .sender (le 8 5) [] [] = .err := by rfl
/-- D4: the same index used twice — legacy yields a handle on descriptor −1 (`bogus`), repaired code an error -/
example : toValue ⟨true⟩ 5 (.tup [.sender, .sender]) (le 8 0 ++ le 8 0) [.snd 7] []
    = .ok (.tup [.sender (.snd 7), .bogus]) [] ⟨[none], []⟩ := by rfl
example : toValue ⟨false⟩ 5 (.tup [.sender, .sender]) (le 8 0 ++ le 8 0) [.snd 7] [] = .err := by rfl
/-- a region index used twice panics in the legacy code (`.take().unwrap()` on `None`) -/
example : toValue ⟨true⟩ 5 (.tup [.shm, .shm]) (le 8 0 ++ le 8 0) [] [3] = .panic := by rfl
/-- non-vacuity: a successful decode that leaves an unreferenced attachment in its slot -/
example : toValue ⟨false⟩ 5 (.tup [.int 1, .receiver]) ([9] ++ le 8 1) [.snd 4, .rcv 6] []
    = .ok (.tup [.int 1 9, .receiver (.rcv 6)]) [] ⟨[some (.snd 4), none], []⟩ := by rfl

end C16
