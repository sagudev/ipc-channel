import IpcModel.Lemmas.BoundsProof
import IpcModel.GenUnsafe
import IpcModel.Props.C01
import IpcModel.Props.C05
/-!
# C18 — unsafe transport code stays inside its buffers for every message shape

What is proved is the **index arithmetic** of the unsafe code, on ghost models whose checks are exactly the facts the
`unsafe` blocks rely on (`Bounds`: capacity / length / kernel-written prefix of the receive buffer; `Frag`: the slices
`send` takes; `Gen`: control-message space; `Shm`: map/unmap pairing and zero length).  The arithmetic itself
(`recvEnd`, `recvFirstLen`, `recvSetLenAfter`, `cmsg*`, `channelLength`, fragment sizes) is regenerated from the Rust
source on every run.  **Not reached**: memory safety of the compiled code as such (no Lean model of Rust's memory); the
thorough tier adds a valgrind run of the same shapes as support, which is not a proof.

`C18_slices` is the range half of `C01_fits` together with `C13_safe`: this module imports `Props/C01` (and through it `Props/C13`) so
that it is checked only together with them.
-/
namespace C18
open Bounds Frag Gen Arith

/-- **C18_recv_bounds** — for every buffer size, every first packet the kernel can return that has its 8-byte header,
every announced total not smaller than the first payload and **every** sequence of follow-up packet sizes (also ones no
correct sender would produce): `set_len` never exceeds the capacity, no count is negative, every kernel write lies
inside the allocation, and a returned buffer has exactly the announced length with every byte written by the kernel. -/
theorem C18_recv_bounds (sys n total : Nat) (pkts : List Nat) (eof : Bool)
    (hn8 : 8 ≤ n) (hnm : n ≤ 8 + recvFirstBuf sys) (htot : n - 8 ≤ total) :
    (∀ v, Bounds.recv sys n total pkts eof ≠ .viol v) ∧
    (∀ b, Bounds.recv sys n total pkts eof = .ok b → b.len = total ∧ b.written = total ∧ b.len ≤ b.cap) := by
  have hm : recvFirstLen n ≤ recvFirstBuf sys := Nat.sub_le_of_le_add (Nat.add_comm .. ▸ hnm)
  have htot : recvFirstLen n ≤ total := recvFirstLen_eq n ▸ htot
  show Good total _
  unfold Bounds.recv
  rw [if_neg (Nat.not_lt.2 hn8), if_neg (Nat.not_lt.2 hnm), if_neg (Nat.not_lt.2 hm)]
  by_cases he : total = recvFirstLen n
  · rw [if_pos he]
    exact good_ok ⟨he.symm, he.symm, hm⟩
  · rw [if_neg he, if_neg (Nat.not_lt.2 htot)]
    exact follow_spec sys total _ pkts eof rfl htot (Nat.le_max_right ..)

/-- **C18_protocol** — what `C18_recv_bounds` asks of a first packet holds for every packet any `send` puts on
the channel socket, under every ENOBUFS / error pattern: it carries its header, fits the receiver's first buffer, and
announces at least its own payload.  (That the channel socket carries nothing but such packets is C02's invariant.) -/
theorem C18_protocol (sys len : Nat) (faults : List Fault) (h : 1000 ≤ sys) (h64 : sys < 2^64) :
    ∀ a ∈ (sendLoop sys len faults).2,
      match a with
      | .single l _ => 8 ≤ 8 + l ∧ 8 + l ≤ 8 + recvFirstBuf sys ∧ (8 + l) - 8 ≤ l ∧ l = len
      | .first lo hi total _ => 8 ≤ 8 + (hi - lo) ∧ 8 + (hi - lo) ≤ 8 + recvFirstBuf sys ∧ (8 + (hi - lo)) - 8 ≤ total ∧ total = len
      | _ => True := by
  intro a ha
  have hb := sendLoop_bounds sys len faults h h64 a ha
  cases a with
  | single l r => exact ⟨Nat.le_add_right .., Nat.add_le_add_left hb.first _, Nat.le_of_eq (Nat.add_sub_cancel_left ..), hb.range⟩
  | first lo hi total r =>
    obtain ⟨_, _, hle, rfl⟩ := hb.range
    have hpay : 8 + (hi - lo) - 8 ≤ total := by
      rw [Nat.add_sub_cancel_left]
      exact Nat.le_trans (Nat.sub_le ..) hle
    exact ⟨Nat.le_add_right .., Nat.add_le_add_left hb.first _, hpay, rfl⟩
  | sock => trivial
  | follow lo hi r => trivial

/-- **C18_slices** — every slice `send` takes from the payload is inside it and non-empty, under every fault stream. -/
theorem C18_slices (sys len : Nat) (faults : List Fault) (h : 1000 ≤ sys) (h64 : sys < 2^64) :
    (sendLoop sys len faults).1 ≠ .panic ∧ ∀ a ∈ (sendLoop sys len faults).2, attInRange len a :=
  ⟨C13.C13_safe sys len faults h h64, fun a ha => (sendLoop_bounds sys len faults h h64 a ha).range⟩

/-- **C18_cmsg** — writer: the control message for `n` descriptors fits the space computed for it; reader: the number of
descriptors read from a control buffer of the allocated size never exceeds what that buffer can hold. -/
theorem C18_cmsg_writer (n : Nat) (h : 4 * n + 8 < 2^64) : cmsgLen (4 * n) ≤ cmsgSpace (4 * n) := cmsg_writer n h

theorem C18_cmsg_reader (cmsg_len : Nat) (h16 : 16 ≤ cmsg_len) (hle : cmsg_len ≤ cmsgSpace (4 * maxFdsInCmsg)) :
    16 + 4 * channelLength cmsg_len ≤ cmsgSpace (4 * maxFdsInCmsg) := by
  unfold channelLength
  rw [cmsgAlign_16]
  exact Nat.le_trans (Nat.add_le_of_le_sub' h16 (Nat.mul_div_le ..)) hle

/-- **C18_shm** — a region is unmapped with exactly the length it was mapped with, only by the handle that owns the
mapping, and a zero-length region has no mapping at all (never a slice from a null pointer). -/
theorem C18_shm_pairing (ops : List Shm.Op) (i : Nat) (h : Shm.Handle) (src : List Nat)
    (hl : (Shm.run ops).hs[i]? = some (some (h, src))) :
    match h.ptr with
    | none => h.length = 0
    | some a => ∃ o, (Shm.run ops).k.maps a = some (o, h.length) ∧ h.length ≠ 0 := by
  rcases ((Shm.inv_run ops C05.size_is_length).hok hl).ptr_cases with ⟨hp, h0⟩ | ⟨a, o, hp, hne, hmap⟩ <;> rw [hp]
  · exact h0
  · exact ⟨o, hmap, hne⟩

theorem C18_shm_zero (ops : List Shm.Op) : ∀ c ∈ (Shm.run ops).k.calls, c ≠ Shm.Call.mmap 0 ∧ c ≠ Shm.Call.munmap 0 :=
  C05.C05_zero ops

/-- shape facts regenerated on this run -/
theorem C18_shape : Gen.shape_recvSetLenBeforeRead = true ∧ Gen.shape_mapZeroIsNull = true ∧ Gen.shape_derefNullIsEmpty = true := by decide

/-! non-vacuity: a three-packet message under a 4608-byte buffer, with well-formed and with adversarial follow-ups -/
example : Bounds.recv 4608 4576 13000 [4576, 3856] true = .ok ⟨13000, 13000, 13000⟩ := by decide
example : Bounds.recv 4608 4576 13000 [9999, 1, 0] true = .closed := by decide

/-! sensitivity: setting the length to the requested end instead of what the kernel delivered (a short follow-up packet,
as after ENOBUFS downsizing) exposes bytes the kernel never wrote -/
example : Bounds.followWith (fun _ _ ep => ep) 4608 13000 ⟨13000, 4568, 4568⟩ [100] true = .viol .lenExposesUnwritten := by decide
/-! sensitivity: without the 8-byte header the subtraction underflows -/
example : Bounds.recv 4608 5 13000 [] true = .viol .headerUnderflow := by decide

/-! ### inventory of `unsafe` (regenerated): every site is accounted for

`platform/unix/mod.rs` has 38 `unsafe` blocks / functions in 36 functions (plus `unsafe impl Send / Sync` for the region type).
They fall into:

* **system calls on descriptors and plain values, no buffer of ours involved** — `channel`, the `drop`s (close / munmap / free
  of what the object owns: C11_shape), `get_system_sendbuf_size`, `connect`, `select` (close of a member), `new`, `accept`,
  `make_socket_lingering`, `clone` (dup), `from_fd`, `create_shmem`, `is_socket`, `memfd_create`, `UnixCmsg::recv` (poll /
  fcntl / recvmsg on the prepared header);
* **`sockaddr_un` path copy** — `new_sockaddr_un`: `strncpy` of at most `len − 1` bytes after the `strlen ≥ len` refusal
  (`Gen.shape_pathChecked`, C08_shape);
* **send side** — `send` (the two calls pass slices `&data[..end]`, `&data[pos..end]`: `C18_slices`), `send_first_fragment`
  (control buffer of `CMSG_SPACE(4·n)` bytes, `copy_nonoverlapping` of `n` descriptors at `CMSG_DATA`: `C18_cmsg_writer`;
  the two `iovec`s are the 8-byte header and the slice), `send_followup_fragment` (pointer + length of one slice);
* **receive side** — `recv` (first buffer, `set_len` after the first packet, `cmsg_fds.add(index)` for
  `index < channel_length`: `C18_cmsg_reader`; the reassembly loop's `set_len` / pointer / length: `C18_recv_bounds`,
  `C18_protocol`), `UnixCmsg::new` (control buffer of `CMSG_SPACE(4·MAX_FDS_IN_CMSG)`), `new_msghdr` (zeroed header),
  `cmsg_len`, `CMSG_DATA` (header-sized offset into that buffer), `UnixCmsg::drop` (free);
* **regions** — `map_file`, `deref`, `from_raw_parts`, `from_byte`, `from_bytes` (mapping length = object length = slice
  length; null for length 0: `C18_shm_pairing`, `C18_shm_zero`, C05).

`C18_unsafe_inventory` pins the list and the number of pointer-level operations of each kind, so that a new, moved or
removed site breaks this obligation and has to be classified again. -/

/-- **C18_unsafe_inventory** — the functions containing `unsafe` and the pointer-level operations of the Unix transport are exactly
the ones the bounds theorems of this file (and C05 / C08 / C11) speak about. -/
theorem C18_unsafe_inventory :
    Gen.unsafeSites = [("new_sockaddr_un", 1), ("channel", 1), ("drop", 1), ("drop", 1), ("get_system_sendbuf_size", 1), ("send", 2),
      ("send_first_fragment", 1), ("send_followup_fragment", 1), ("connect", 1), ("drop", 1), ("select", 1), ("drop", 1), ("drop", 1),
      ("new", 1), ("accept", 1), ("make_socket_lingering", 1), ("map_file", 1), ("drop", 1), ("drop", 1), ("clone", 1), ("deref", 1),
      ("from_raw_parts", 1), ("from_fd", 1), ("from_byte", 1), ("from_bytes", 1), ("recv", 2), ("new_msghdr", 1), ("create_shmem", 1),
      ("create_shmem", 1), ("drop", 1), ("new", 1), ("recv", 1), ("cmsg_len", 1), ("is_socket", 1), ("memfd_create", 1), ("CMSG_DATA", 1)] ∧
    Gen.unsafeOutsideFns = 2 ∧
    Gen.ptrOps = [("set_len", 4), ("as_mut_ptr", 7), ("as_ptr", 9), ("copy_nonoverlapping", 2), ("from_raw_parts", 2), ("offset/add", 2),
      ("malloc", 2), ("free", 2), ("mmap", 1), ("munmap", 1), ("write_bytes/memset", 0), ("strncpy", 1), ("zeroed", 2), ("transmute", 0),
      ("get_unchecked", 0)] := ⟨rfl, rfl, rfl⟩

end C18
