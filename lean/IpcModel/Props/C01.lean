import IpcModel.Props.C13
/-!
# C01 — values and byte payloads arrive exactly as sent, at every size (transport part)

`d : List α` is the payload (any element type); `sys` the effective `SO_SNDBUF`.
-/
namespace C01
open Frag Gen Arith

/-- **C01_frag** — for every payload (length 0, one packet, one byte more, many packets …) and every buffer size
`1000 ≤ sys < 2^64`, an undisturbed `send` succeeds and the receiver reassembles exactly the payload. -/
theorem C01_frag (sys : Nat) (d : List α) (h : 1000 ≤ sys) (h64 : sys < 2^64) :
    (sendLoop sys d.length []).1 = .ok ∧
    ∃ p, firstPkt d (sendLoop sys d.length []).2 = some p ∧
      ∀ eof, recvMsg sys p (followPkts d (sendLoop sys d.length []).2) eof = .ok d := by
  have hok := sendLoop_nofault sys d.length [] h h64 nofun
  exact ⟨hok, C13.C13_ok sys d [] h h64 hok⟩

/-- **C01_single_iff** — sender and receiver agree on which messages are fragmented: the message travels as one packet
exactly when it fits `first_fragment_size(sys)`, and exactly then the receiver's fast-path test `total = len` succeeds
and no dedicated socket rides along. -/
theorem C01_single_iff (sys : Nat) (d : List α) (h : 1000 ≤ sys) (h64 : sys < 2^64) (p : FirstPkt α)
    (hp : firstPkt d (sendLoop sys d.length []).2 = some p) :
    (p.total = p.payload.length ↔ d.length ≤ firstFragmentSize sys) ∧
    (p.hasDed = false ↔ d.length ≤ firstFragmentSize sys) ∧
    ((sendLoop sys d.length []).2 = [.single d.length .none] ↔ d.length ≤ firstFragmentSize sys) := by
  rcases sendLoop_recv sys d [] h h64 with ⟨_, hn⟩ | ⟨q, hq, hshape, _⟩
  · cases hn.symm.trans hp
  · cases hq.symm.trans hp
    rcases hshape with ⟨ht, rfl, hs⟩ | ⟨e, he, rfl, hlong⟩
    · exact ⟨iff_of_true rfl hs, iff_of_true rfl hs, iff_of_true ht hs⟩
    · -- without faults a message is fragmented only because it is too long for one packet
      have hn := Nat.not_le.2 (hlong rfl)
      have hl : d.length ≠ (d.take e).length := Nat.ne_of_gt (Nat.lt_of_le_of_lt (List.length_take_le e d) he)
      have ht : (sendLoop sys d.length []).2 ≠ [.single d.length .none] := fun ht => by
        rw [ht] at hp
        cases congrArg (Option.map FirstPkt.hasDed) hp
      exact ⟨iff_of_false hl hn, iff_of_false nofun hn, iff_of_false ht hn⟩

/-- **C01_fits** (its range half is also `C18_slices`) — every slice `send` takes is inside the payload and non-empty, and every packet it
hands to the kernel is at most `fragment_size(sys) = sys − RESERVED_SIZE` bytes, the kernel's per-packet limit —
under every fault stream. -/
theorem C01_fits (sys len : Nat) (faults : List Fault) (h : 1000 ≤ sys) (h64 : sys < 2^64) :
    ∀ a ∈ (sendLoop sys len faults).2, attInRange len a ∧ attBytes a ≤ sys - 32 := fun a ha =>
  have hb := sendLoop_bounds sys len faults h h64 a ha
  ⟨hb.range, fs_eq sys ▸ hb.bytes⟩

/-! non-vacuity: a three-packet message under a 4608-byte buffer -/
example : sendLoop 4608 13000 [] = (.ok, [.sock, .first 0 4568 13000 .none, .follow 4568 9144 .none, .follow 9144 13000 .none]) := by
  simp [sendLoop, singleTest, ffs_eq, fs_eq, fragLoop, nextFault, endPos, mkAtt, endFirst, endFollow]

end C01
