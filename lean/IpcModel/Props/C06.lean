import IpcModel.RecvSetP
import IpcModel.Lemmas.RecvSetOrder
import IpcModel.GenSet
/-!
# C06 — a receiver set reports every event of every member exactly once

Model `RSetP`: members (channels) with a queue, a sender count and registration flags; the kernel's edge-triggered ready
list (`wake` appends a registered member unless present); `poll` hands out at most `cap` ready tokens; `drain` is one
iteration of `select`'s per-token loop (non-blocking receive until would-block; on closure: report, deregister, close).
Actions `send`, `dropSender`, `add`, `poll`, `drain` interleave arbitrarily (sender threads vs the selecting thread).

`C06_once_ordered` is the per-member statement over all interleavings: the concatenation of all select results
restricted to member m equals `map msg (sent to m, in order) ++ [closed]?`, the closed event at most once, after all
messages, only when no sender exists.  Member ids are assumed pairwise distinct (`OthersDiffer`; the real set hands them
out from a counter, `C06_shape`, and the harness checks on every run that they differ: clause `C06_ids` of DESIGN.md §5).
-/
namespace C06
open RSetP

/-- **C06_no_lost_wakeup** — invariant of every execution (any members, any traffic, any interleaving, any `cap`): a registered
member with a queued message or an unreported closure is in the kernel's ready list or in the batch `select` is draining. -/
theorem C06_no_lost_wakeup (st st' : St) (as : List Act) (hI : Inv st) (h : run st as = some st') : Inv st' :=
  inv_run st st' as hI h

/-- the empty set satisfies the invariant, so it holds in every reachable state -/
theorem C06_init (cap : Nat) : Inv ⟨cap, [], [], .idle, []⟩ := by
  intro k m hm; simp at hm

/-- **C06_select_enabled** — hence `select`'s wait is enabled (does not go on blocking) whenever anything is pending: however many members
are ready (more or fewer than the events buffer), whether the traffic was queued before `add`, and after an interrupted wait
(`EINTR` leaves the ready list untouched and the code retries the same `poll`). -/
theorem C06_select_enabled (st : St) (hI : Inv st) (hidle : st.pc = .idle) (k : Nat) (m : Member)
    (hm : st.members[k]? = some m) (hp : pending m) : (step st .poll).isSome :=
  poll_enabled st hI hidle k m hm hp

/-- **C06_once_ordered** — for every execution from a state where nothing has been reported for member `k` (id `i`, queue
`q0`): at every later point the events reported for `i` are `del.map msg ++ [closed]?` where `del ++ (still queued) =
q0 ++ (everything sent to k since)`, in order; and if the closure was reported then nothing is queued, no sender exists
and the member is deregistered — so the closure comes once, last, and only after every message. -/
theorem C06_once_ordered (as : List Act) (st st' : St) (k i : Nat) (m : Member)
    (hI : Inv2 st) (hod : OthersDiffer st k i) (hm : st.members[k]? = some m) (hid : m.id = i) (hcl : m.closedReported = false)
    (hrep : evsOf i (allRep st) = []) (h : run st as = some st') :
    ∃ del m', st'.members[k]? = some m' ∧
      evsOf i (allRep st') = del.map some ++ (if m'.closedReported then [none] else []) ∧
      del ++ m'.q = m.q ++ sentTo k as ∧
      (m'.closedReported = true → m'.q = [] ∧ m'.senders = 0 ∧ m'.registered = false) := by
  obtain ⟨-, del, m', hm', -, hev, he⟩ :=
    acct_run as st st' k i m.q hI ⟨hod, [], m, hm, hid, by rw [hrep, hcl]; rfl, rfl⟩ h
  have hc := (inv2_run st st' as hI h).closedDone k m' hm'
  exact ⟨del, m', hm', hev, he, fun h => ⟨(hc h).2.1, (hc h).2.2, (hc h).1⟩⟩

/-- any set of not yet added channels (whatever is queued on them, whatever senders they have) is a valid start -/
theorem C06_inv2_fresh (cap : Nat) (ms : List Member) (h : ∀ m ∈ ms, m.registered = false ∧ m.closedReported = false) :
    Inv2 ⟨cap, ms, [], .idle, []⟩ := by
  refine ⟨.nil, .nil, nofun, nofun, fun k m hm hc => ?_⟩
  cases (h m (List.mem_of_getElem? hm)).2.symm.trans hc

/-- the structural invariant (`ready` and the batch hold distinct registered members; a member whose closure was reported is
deregistered, drained and has no sender) holds for the empty set -/
theorem C06_inv2_init (cap : Nat) : Inv2 ⟨cap, [], [], .idle, []⟩ :=
  C06_inv2_fresh cap [] (List.forall_mem_nil _)

/-- … and is preserved by every step -/
theorem C06_inv2_step (st st' : St) (a : Act) (hI : Inv2 st) (h : step st a = some st') : Inv2 st' := inv2_step st st' a hI h

/-- the events buffer of the real code (generated constant) is positive, so every `poll` hands out at least one token -/
theorem C06_cap_pos : 0 < Gen.eventsCap := by decide

/-- **C06_shape** — what the model's actions assume about `OsIpcReceiverSet`, regenerated from the source: ids come from a counter
(never re-used, so members are told apart for ever); a member is registered for readability before it is recorded; the wait
blocks without time-out and retries on `EINTR`; every reported event is served, and serving a member means receiving until
`EWOULDBLOCK` or closure, with no cap (`drain`), closure deregistering and closing the member. -/
theorem C06_shape : Gen.shape_idsFromCounter = true ∧ Gen.shape_registerReadable = true ∧ Gen.shape_waitRetriesOnEintr = true ∧
    Gen.shape_drainUntilWouldBlock = true ∧ Gen.shape_everyEventServed = true := by decide

/-! non-vacuity: two channels with traffic queued before `add`, cap 1 (more ready members than the events buffer), a sender
drop, interleaved polls and drains: member 0 (id 10) is reported 5, 6, closed; member 1 (id 20) is reported 7 -/
def demoSt : St := ⟨1, [⟨10, [5], 1, false, false⟩, ⟨20, [], 1, false, false⟩], [], .idle, []⟩
def demoActs : List Act := [.add 0, .add 1, .send 1 7, .send 0 6, .dropSender 0, .poll, .drain, .drain, .drain, .drain, .poll, .drain, .drain, .drain]
example : (run demoSt demoActs).map (fun st => (evsOf 10 (allRep st), evsOf 20 (allRep st)))
    = some ([some 5, some 6, none], [some 7]) := by decide +kernel

end C06
