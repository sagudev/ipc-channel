import IpcModel.RecvSig
import IpcModel.Interleave.Bridge
import IpcModel.Interleave.HB
import IpcModel.RecvAtt
import IpcModel.Interleave.Att
/-!
# C12 — a sender crashing mid-send cannot corrupt a message or falsely close a channel

Same model as C02; `crash t` (allowed between any two system calls of any sender) closes all the sender's descriptors:
the message it was sending becomes `failed` and the sending end of its dedicated socket is closed.
As in `Props/C02`, `Interleave/Bridge` is imported so that this property is checked only together with the ties of `IM`'s packet
arithmetic to the regenerated one.
-/
namespace C12
open IM

/-- **C12_intact / C12_atomic** — under every schedule with crashes at arbitrary points: messages whose send had returned are delivered
intact (`delivered n ⇒ n = len`), the interrupted message is never delivered as a shortened or mixed payload (`corrupt` is
unreachable), and the only messages dropped are those whose send did not complete. -/
theorem C12_intact (sys : Nat) (lens : List Nat) (threads : List (List Nat)) (hsys : 1000 ≤ sys)
    (as : List Act) (st : St) (h : run (init sys lens threads) as = some st) (m : Nat) (x : M) (hm : st.msgs[m]? = some x) :
    x.rs ≠ .corrupt ∧ (∀ n, x.rs = .delivered n → n = x.len ∧ x.phase = .ok) ∧ (x.rs = .discarded → x.phase = .failed) ∧
    (x.phase = .ok → x.rs ≠ .discarded) :=
  delivery_safe sys lens threads hsys as st h m x hm

/-- **C12_no_wait_on_dead** — the receiver is never left waiting on a dead dedicated socket: whenever it is assembling a message whose
sender has finished or died, its next step is enabled (it reads the next chunk, completes the message, or discards it). -/
theorem C12_no_wait_on_dead (sys : Nat) (lens : List Nat) (threads : List (List Nat)) (hsys : 1000 ≤ sys)
    (as : List Act) (st : St) (h : run (init sys lens threads) as = some st) (m : Nat) (x : M)
    (hm : st.msgs[m]? = some x) (hasm : isAsm x = true) (hfin : finished x) : (rAsm st.sys x).isSome = true :=
  rAsm_enabled ((sinv_run _ _ as (sinv_init sys lens threads hsys) h).good hm) hasm hfin _

/-- **C12_survivor (shape)** — the repaired receiver discards a truncated message and goes on receiving; it does not report channel
closure for it (fact regenerated from the source on every run). -/
theorem C12_truncated_not_closed : Gen.recvTruncatedIsClosed = false := by decide

/-- **C12_own_attachments** — for the way `recv` handles its attachment vectors now (regenerated: created at entry, filled from the
first packet only, dropped when a truncated message is discarded): however many truncated messages — with whatever
descriptors — a call discards first, and whatever an earlier call left behind, the message it finally delivers comes with
exactly its own descriptors. -/
theorem C12_own_attachments (dead : List (List Nat)) (own leftover : List Nat) (fragmented : Bool) :
    RecvAtt.call RecvAtt.codeCfg leftover (RecvAtt.history dead own fragmented) = some own := by
  rw [codeCfg_eq]
  induction dead with
  | nil => cases fragmented <;> rfl
  -- a first packet and its truncation: `run` computes on with empty vectors, to the same call on the rest
  | cons a t ih => exact ih

/-- sensitivity: vectors kept across the discard (a loop instead of the recursion, or the drops removed) — the survivor's
message arrives with the dead message's descriptors in front of its own -/
example : RecvAtt.call ⟨true, false⟩ [] (RecvAtt.history [[7, 8]] [1] false) = some [7, 8, 1] := by decide +kernel

/-- non-vacuity: the sender of a 3-packet message dies after the second packet; the message is discarded and the next sender's
message is delivered -/
example : (run (init 4608 [13000, 100] [[0], [1]])
    [.s 0, .s 0, .s 0, .crash 0, .s 1, .s 1, .r, .r, .r, .r]).map (fun st => st.msgs.map (·.rs))
    = some [.discarded, .delivered 100] := by decide +kernel

/-- **C12_attachments_all_schedules** — every message may carry descriptors (`atts m`, in the control message of its first packet).  For
every execution — any threads, sizes, ENOBUFS, fatal errors and sender crashes at any point, any order of receiver steps —
the attachment lists handed to the receiver's caller are, in delivery order, exactly the delivered messages' own
descriptors: a truncated message that is discarded in between leaves nothing behind (for the handling of `recv`'s vectors
regenerated from the source, `RecvAtt.codeCfg`). -/
theorem C12_attachments_all_schedules (atts : Nat → List Nat) (sys : Nat) (lens : List Nat) (threads : List (List Nat)) (as : List Act) :
    (RecvAtt.feedAll RecvAtt.codeCfg ⟨[], none, []⟩ ((routs (init sys lens threads) as).flatMap (evOf atts))).out
      = ((routs (init sys lens threads) as).flatMap delivOf).map atts :=
  att_init atts sys lens threads as

/-- non-vacuity and sensitivity on the crash schedule above (message 0 carries descriptors 7, 8 and dies; message 1 carries 1):
the code variant returns `[1]` with the delivered message; with the vectors kept across the discard it would be `[7, 8, 1]` -/
example : ((routs (init 4608 [13000, 100] [[0], [1]]) [.s 0, .s 0, .s 0, .crash 0, .s 1, .s 1, .r, .r, .r, .r]).flatMap delivOf) = [1] := by decide +kernel
example : (RecvAtt.feedAll ⟨true, true⟩ ⟨[], none, []⟩ ((routs (init 4608 [13000, 100] [[0], [1]])
    [.s 0, .s 0, .s 0, .crash 0, .s 1, .s 1, .r, .r, .r, .r]).flatMap (evOf fun m => if m = 0 then [7, 8] else [1]))).out = [[1]] := by decide +kernel
example : (RecvAtt.feedAll ⟨true, false⟩ ⟨[], none, []⟩ ((routs (init 4608 [13000, 100] [[0], [1]])
    [.s 0, .s 0, .s 0, .crash 0, .s 1, .s 1, .r, .r, .r, .r]).flatMap (evOf fun m => if m = 0 then [7, 8] else [1]))).out = [[7, 8, 1]] := by decide +kernel

/-- **C12_sigchld_transparent** — a sender that dies raises `SIGCHLD` in its parent; when the parent is the receiver and is reassembling another sender's
message, its read of the next fragment is cut short (`EINTR`).  For the code as it is (retry, and the buffer length put back
after every read — both regenerated) the survivor's message comes out exactly as without the signal, however often that happens. -/
theorem C12_sigchld_transparent {α : Type} (sys total : Nat) (buf : List α) (answers : List (RecvSig.Ans α)) (eof : Bool) :
    RecvSig.loop Gen.shape_followupRetriesEintr sys total buf answers eof Gen.shape_followupRestoresLen
      = RecvSig.embed (Frag.recvFollow sys total buf (RecvSig.strip answers) eof) :=
  RecvSig.loop_code sys total buf answers eof

end C12
