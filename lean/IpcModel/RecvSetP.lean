import IpcModel.Lemmas.ListLookup
/-! # L6, the receiver set (`RSetP`) — `OsIpcReceiverSet` over an edge-triggered ready list: no lost wake-up (proof-oriented model) -/
namespace RSetP

/-- a channel the set may hold; actions name it by its position in `St.members`, events report its `id` -/
structure Member where
  id : Nat
  q : List Nat
  senders : Nat
  registered : Bool
  closedReported : Bool

inductive Ev | msg (id tag : Nat) | closed (id : Nat)

/-- where `select` is: waiting in `poll`, or serving the tokens a `poll` returned, with the events collected so far -/
inductive Pc
  | idle
  | batch (toks : List Nat) (out : List Ev)

/-- `ready` is the kernel's ready list (members by position), `cap` the size of `select`'s events buffer (`Gen.eventsCap` in the
code), `reported` what earlier calls of `select` returned -/
structure St where
  cap : Nat
  members : List Member
  ready : List Nat
  pc : Pc
  reported : List Ev

/-- `send`, `dropSender`: sender threads; `add`: `OsIpcReceiverSet::add`; `poll`, `drain`: the thread inside `select` -/
inductive Act
  | send (k tag : Nat) | dropSender (k : Nat) | add (k : Nat)
  | poll | drain

/-- the kernel marks member `k` ready: edge-triggered, so only a registered member, and only once -/
def wake (st : St) (k : Nat) : St :=
  match st.members[k]? with
  | some m => if m.registered && !st.ready.contains k then { st with ready := st.ready ++ [k] } else st
  | none => st

def setM (st : St) (k : Nat) (m : Member) : St := { st with members := st.members.set k m }

/-- `none`: the action is not enabled.  `poll` takes at most `cap` tokens off the ready list; `drain` is one non-blocking receive
on the member at the head of the batch: a message, or the closure (reported once; the member is deregistered, which also takes
it off the ready list), or `EWOULDBLOCK` with a sender left, which ends the member's turn -/
def step (st : St) : Act → Option St
  | .send k tag =>
    match st.members[k]? with
    | none => none
    | some m =>
      if m.senders = 0 || m.closedReported then none else
      some (wake (setM st k { m with q := m.q ++ [tag] }) k)
  | .dropSender k =>
    match st.members[k]? with
    | none => none
    | some m =>
      if m.senders = 0 then none else
      let st' := setM st k { m with senders := m.senders - 1 }
      some (if m.senders = 1 then wake st' k else st')
  | .add k =>
    match st.members[k]? with
    | none => none
    | some m =>
      if m.registered || m.closedReported then none else
      let st' := setM st k { m with registered := true }
      some (if m.q ≠ [] || m.senders = 0 then wake st' k else st')
  | .poll =>
    match st.pc with
    | .idle => if st.ready = [] then none
               else some { st with pc := .batch (st.ready.take st.cap) [], ready := st.ready.drop st.cap }
    | _ => none
  | .drain =>
    match st.pc with
    | .batch [] out => some { st with pc := .idle, reported := st.reported ++ out }
    | .batch (k :: rest) out =>
      match st.members[k]? with
      | none => none
      | some m =>
        match m.q with
        | tag :: q' =>
          some { (setM st k { m with q := q' }) with pc := .batch (k :: rest) (out ++ [.msg m.id tag]) }
        | [] =>
          if m.senders = 0 then
            some { (setM st k { m with registered := false, closedReported := true }) with
                    pc := .batch rest (out ++ [.closed m.id]), ready := st.ready.filter (· ≠ k) }
          else some { st with pc := .batch rest out }
    | .idle => none

def pending (m : Member) : Prop := m.registered = true ∧ (m.q ≠ [] ∨ (m.senders = 0 ∧ m.closedReported = false))
def inBatch (st : St) (k : Nat) : Prop := match st.pc with | .batch toks _ => k ∈ toks | .idle => False

/-- no lost wake-up -/
def Inv (st : St) : Prop :=
  ∀ k m, st.members[k]? = some m → pending m → k ∈ st.ready ∨ inBatch st k

def sentBy (k : Nat) : Act → List Nat
  | .send k' tag => if k' = k then [tag] else []
  | _ => []

def run : St → List Act → Option St
  | st, [] => some st
  | st, a :: as => match step st a with | some st' => run st' as | none => none

theorem wake_eq (st : St) (k : Nat) : wake st k = { st with ready := (wake st k).ready } := by
  unfold wake
  split
  · split <;> rfl
  · rfl

theorem wake_members (st : St) (k : Nat) : (wake st k).members = st.members := by rw [wake_eq]
theorem wake_pc (st : St) (k : Nat) : (wake st k).pc = st.pc := by rw [wake_eq]
theorem wake_reported (st : St) (k : Nat) : (wake st k).reported = st.reported := by rw [wake_eq]

theorem inBatch_wake {st : St} {k j : Nat} : inBatch (wake st k) j ↔ inBatch st j := by
  unfold inBatch; rw [wake_pc]

theorem mem_wake_ready {st : St} {k j : Nat} :
    j ∈ (wake st k).ready ↔ j ∈ st.ready ∨ (j = k ∧ ∃ m, st.members[k]? = some m ∧ m.registered = true) := by
  unfold wake
  cases st.members[k]? with
  | none => simp
  | some m =>
    simp only [Option.some.injEq, exists_eq_left']
    split <;> simp_all

theorem setM_self {st : St} {k : Nat} {m : Member} (hm : st.members[k]? = some m) (m' : Member) :
    (setM st k m').members[k]? = some m' :=
  List.getElem?_set_self (ListLookup.lt_of_get hm)

theorem setM_ne (st : St) {k j : Nat} (m' : Member) (h : j ≠ k) : (setM st k m').members[j]? = st.members[j]? :=
  List.getElem?_set_ne (Ne.symm h)

theorem setM_cases {st : St} {k j : Nat} {m' mj : Member} (h : (setM st k m').members[j]? = some mj) :
    (j = k ∧ mj = m') ∨ (j ≠ k ∧ st.members[j]? = some mj) :=
  (ListLookup.get_set.mp h).imp_left fun e => ⟨e.1, e.2.2.symm⟩

/-- What `send`, `dropSender` and `add` do to the member `k` they name: `m` becomes `m'`. The last field: none of them is
enabled on a member that is closed and has no sender. -/
structure Upd (a : Act) (k : Nat) (m m' : Member) : Prop where
  id : m'.id = m.id
  closed : m'.closedReported = m.closedReported
  reg : m.registered = true → m'.registered = true
  q : m'.q = m.q ++ sentBy k a
  others : ∀ j, j ≠ k → sentBy j a = []
  live : m.closedReported = true → m.senders ≠ 0

/-- The successful outcomes of `step`, one rule each, except that `send`, `dropSender` and `add` share `upd`. -/
inductive Step : St → Act → St → Prop
  /-- the member is woken, unless the change leaves nothing pending that was not pending before -/
  | upd {st a st'} (k : Nat) {m} (m' : Member) (hm : st.members[k]? = some m) (hu : Upd a k m m')
      (hst : st' = wake (setM st k m') k ∨ (st' = setM st k m' ∧ (pending m' → pending m))) : Step st a st'
  | poll {c ms r rep} (hr : r ≠ []) : Step ⟨c, ms, r, .idle, rep⟩ .poll ⟨c, ms, r.drop c, .batch (r.take c) [], rep⟩
  | done {c ms r out rep} : Step ⟨c, ms, r, .batch [] out, rep⟩ .drain ⟨c, ms, r, .idle, rep ++ out⟩
  /-- `msg`, `closed`: `step` sets the member first and the batch (and ready list) afterwards; the other way round here, so that
  every change of a member is an outermost `setM`, as in `upd` -/
  | msg {c ms r rest out rep} (k : Nat) (m : Member) (tag : Nat) (q' : List Nat) (hm : ms[k]? = some m) (hq : m.q = tag :: q') :
      Step ⟨c, ms, r, .batch (k :: rest) out, rep⟩ .drain
        (setM ⟨c, ms, r, .batch (k :: rest) (out ++ [.msg m.id tag]), rep⟩ k { m with q := q' })
  | closed {c ms r rest out rep} (k : Nat) (m : Member) (hm : ms[k]? = some m) (hq : m.q = []) (hs : m.senders = 0) :
      Step ⟨c, ms, r, .batch (k :: rest) out, rep⟩ .drain
        (setM ⟨c, ms, r.filter (· ≠ k), .batch rest (out ++ [.closed m.id]), rep⟩ k
          { m with registered := false, closedReported := true })
  | block {c ms r rest out rep} (k : Nat) (m : Member) (hm : ms[k]? = some m) (hq : m.q = []) (hs : m.senders ≠ 0) :
      Step ⟨c, ms, r, .batch (k :: rest) out, rep⟩ .drain ⟨c, ms, r, .batch rest out, rep⟩

theorem Step.of_step {st st' : St} {a : Act} (h : step st a = some st') : Step st a st' := by
  obtain ⟨c, ms, r, pc, rep⟩ := st
  revert h
  -- `cases h` closes the `none` arms; the eight left come in `step`'s order
  fun_cases step _ a <;> intro h <;> cases h
  next k tag m hm hg =>  -- `send`
    have hg : m.senders ≠ 0 ∧ m.closedReported = false := by
      simpa only [Bool.or_eq_true, decide_eq_true_eq, not_or, Bool.not_eq_true] using hg
    exact .upd k { m with q := m.q ++ [tag] } hm
      { id := rfl, closed := rfl, reg := id
        q := by rw [sentBy, if_pos rfl]
        others := fun j hj => if_neg (Ne.symm hj)
        live := fun _ => hg.1 }
      (.inl rfl)
  next k m hm hg _ =>  -- `dropSender`
    refine .upd k { m with senders := m.senders - 1 } hm
      { id := rfl, closed := rfl, reg := id
        q := (List.append_nil _).symm
        others := fun _ _ => rfl
        live := fun _ => hg } ?_
    split
    · exact .inl rfl
    · -- not the last sender: no wake-up, and a sender left keeps the member from becoming pending
      next h1 =>
        have hleft : m.senders - 1 ≠ 0 := by omega
        exact .inr ⟨rfl, fun hp => ⟨hp.1, hp.2.imp_right fun h0 => absurd h0.1 hleft⟩⟩
  next k m hm hg _ =>  -- `add`
    have hg : m.registered = false ∧ m.closedReported = false := by
      simpa only [Bool.or_eq_true, not_or, Bool.not_eq_true] using hg
    refine .upd k { m with registered := true } hm
      { id := rfl, closed := rfl, reg := fun _ => rfl
        q := (List.append_nil _).symm
        others := fun _ _ => rfl
        live := fun hc => nomatch hg.2.symm.trans hc } ?_
    split
    · exact .inl rfl
    · -- nothing queued and a sender left: no wake-up, and the member is not pending
      next h1 => exact .inr ⟨rfl, fun hp => absurd (hp.2.imp_right And.left) (by simpa using h1)⟩
  -- `poll` and `drain`: the guard on `pc` says which constructor applies
  all_goals cases ‹St.pc _ = _›
  · exact .poll ‹_›
  · exact .done
  · exact .msg _ _ _ _ ‹_› ‹_›
  · exact .closed _ _ ‹_› ‹_› ‹_›
  · exact .block _ _ ‹_› ‹_› ‹_›

theorem inv_step (st st' : St) (a : Act) (hI : Inv st) (h : step st a = some st') : Inv st' := by
  intro j mj hj hp
  cases Step.of_step h with
  | upd k m' hm hu hst =>
    rcases hst with rfl | ⟨rfl, hw⟩
    · rw [wake_members] at hj
      rcases setM_cases hj with ⟨rfl, rfl⟩ | ⟨-, hj⟩
      · exact .inl (mem_wake_ready.2 (.inr ⟨rfl, _, setM_self hm _, hp.1⟩))
      · exact (hI j mj hj hp).imp (fun hr => mem_wake_ready.2 (.inl hr)) inBatch_wake.2
    · rcases setM_cases hj with ⟨rfl, rfl⟩ | ⟨-, hj⟩
      · exact hI j _ hm (hw hp)
      · exact hI j mj hj hp
  | @poll c _ r =>
    rcases hI j mj hj hp with hr | hb
    · -- the ready list is split into the batch and what stays in it
      rw [← List.take_append_drop c r, List.mem_append] at hr
      exact hr.symm
    · exact hb.elim
  | done => exact (hI j mj hj hp).imp_right fun hb => nomatch hb
  | msg =>
    rcases setM_cases hj with ⟨rfl, rfl⟩ | ⟨-, hj⟩
    · exact .inr List.mem_cons_self
    · exact hI j mj hj hp
  | closed =>
    rcases setM_cases hj with ⟨rfl, rfl⟩ | ⟨hjk, hj⟩
    · cases hp.1
    · exact (hI j mj hj hp).imp (fun hr => List.mem_filter.2 ⟨hr, by simpa using hjk⟩)
        fun hb => (List.mem_cons.1 hb).resolve_left hjk
  | block _ _ hm hq hs =>
    refine (hI j mj hj hp).imp_right fun hb => ?_
    rcases List.mem_cons.1 hb with rfl | hb
    · cases hm.symm.trans hj
      exact (hp.2.elim (· hq) (hs ·.1)).elim
    · exact hb

theorem run_cons_eq_some {st st' : St} {a : Act} {as : List Act} :
    run st (a :: as) = some st' ↔ ∃ st1, step st a = some st1 ∧ run st1 as = some st' := by
  cases hs : step st a <;> simp [run, hs]

theorem run_induction {P : St → Prop} (hstep : ∀ st st' a, P st → step st a = some st' → P st')
    {st st' : St} {as : List Act} (h0 : P st) (h : run st as = some st') : P st' := by
  induction as generalizing st with
  | nil => cases h; exact h0
  | cons a as ih => obtain ⟨st1, h1, h2⟩ := run_cons_eq_some.1 h; exact ih (hstep _ _ _ h0 h1) h2

theorem inv_run (st st' : St) (as : List Act) (hI : Inv st) (h : run st as = some st') : Inv st' :=
  run_induction inv_step hI h

/-- so `poll` returns whenever something is pending and no batch is in progress -/
theorem poll_enabled (st : St) (hI : Inv st) (hidle : st.pc = .idle) (k : Nat) (m : Member)
    (hm : st.members[k]? = some m) (hp : pending m) : (step st .poll).isSome := by
  rcases hI k m hm hp with hr | hb
  · simp [step, hidle, List.ne_nil_of_mem hr]
  · simp [inBatch, hidle] at hb

end RSetP
