import IpcModel.GenInproc
/-!
# In-process transport: from the answer of the queue to the answer of the API

The in-process transport (`src/platform/inprocess/mod.rs`, feature `force-inprocess`) keeps one crossbeam queue per channel.
A receive makes one crossbeam call and maps its outcome to a platform error, which `ipc.rs` maps to the public error.
`Gen.inprocCall_*` / `Gen.inprocArms_*` are that call and the arms of that mapping, regenerated from the source on every run;
this file interprets them (first matching arm, as `match` does) and states what the public API answers for every outcome.

Trusted: crossbeam's queue itself (its outcomes are the `XB` below: `disconnected` only when the queue is empty and every
sender is gone — which is the `Ideal` model's rule and is compared with the real in-process build by the `world` scenario).
-/
namespace Inproc
open Gen

/-- what the crossbeam call can answer -/
inductive XB | msg | empty | timeout | disconnected
deriving Repr, DecidableEq

/-- which outcomes each crossbeam call has: `recv` blocks (message or disconnected), `try_recv` adds empty, `recv_timeout` adds time-out -/
def possible : XCall → XB → Bool
  | _, .msg => true
  | _, .disconnected => true
  | .tryRecv, .empty => true
  | .recvTimeout, .timeout => true
  | _, _ => false

def patMatches : XPat → XB → Bool
  | .any, x => x != .msg
  | .empty, .empty => true
  | .timeout, .timeout => true
  | .disconnected, .disconnected => true
  | _, _ => false

/-- first arm that matches (Rust `match`); `none`: no arm — the real code would not compile, the model refuses -/
def firstArm : List (XPat × CErr) → XB → Option CErr
  | [], _ => none
  | (p, e) :: rest, x => if patMatches p x then some e else firstArm rest x

/-- public answers -/
inductive Answer | message | empty | disconnected | otherError | refused
deriving Repr, DecidableEq

/-- `From<ChannelError> for TryRecvError / IpcError`, as far as the flags regenerated from the source pin it down: with the flag
off the mapping is unknown and the model refuses -/
def publicOf (convOk : Bool) : CErr → Answer
  | .closed => if convOk then .disconnected else .refused
  | .empty => if convOk then .empty else .refused
  | _ => if convOk then .otherError else .refused

def answer (arms : List (XPat × CErr)) (convOk : Bool) (x : XB) : Answer :=
  match x with
  | .msg => .message
  | x => match firstArm arms x with
    | some e => publicOf convOk e
    | none => .refused

/-- what the API has to answer -/
def spec : XB → Answer
  | .msg => .message
  | .empty => .empty
  | .timeout => .empty
  | .disconnected => .disconnected

def armsOf : XCall → List (XPat × CErr)
  | .recv => inprocArms_recv
  | .tryRecv => inprocArms_tryRecv
  | .recvTimeout => inprocArms_recvTimeout

def callOf : XCall → XCall
  | .recv => inprocCall_recv
  | .tryRecv => inprocCall_tryRecv
  | .recvTimeout => inprocCall_recvTimeout

/-- with the arms and flags of the source -/
def codeAnswer (c : XCall) (x : XB) : Answer :=
  answer (armsOf c) (inprocConvIpcError && inprocConvTryRecvError) x

/-- **every receive flavour of the in-process transport answers exactly what its queue said** (`spec`), for every outcome its
crossbeam call has; and each flavour makes the call it is named after. -/
theorem code_answers (c : XCall) (x : XB) (h : possible c x = true) : codeAnswer c x = spec x ∧ callOf c = c := by
  revert h; cases c <;> cases x <;> decide

theorem disconnected_iff (c : XCall) (x : XB) (h : possible c x = true) : codeAnswer c x = .disconnected ↔ x = .disconnected := by
  rw [(code_answers c x h).1]; cases x <;> decide

theorem empty_iff (c : XCall) (x : XB) (h : possible c x = true) : codeAnswer c x = .empty ↔ (x = .empty ∨ x = .timeout) := by
  rw [(code_answers c x h).1]; cases x <;> decide

/-- sensitivity: the mappings of seeded changes C03-5 (`Err(_) => ChannelEmpty` after a fast path) and C10-5 (`Err(_) => closed`
for the timed wait) give wrong answers -/
example : answer [(.any, .empty)] true .disconnected = .empty := by decide
example : answer [(.any, .closed)] true .timeout = .disconnected := by decide

/-- statement facts of the in-process transport, regenerated from the source: the queue is unbounded (a send never waits),
`consume` empties the handle it is called on, `send` is one queue operation passing data, channels and regions on as given,
and adding a receiver to a set moves it -/
theorem shape : inprocUnbounded = true ∧ inprocConsumeTakes = true ∧ inprocSendPassesThrough = true ∧ inprocAddMoves = true := by decide

end Inproc
