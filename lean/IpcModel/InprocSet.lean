import IpcModel.GenInproc
import IpcModel.Lemmas.ListLookup
/-!
# Ids of the in-process receiver set

`OsIpcReceiverSet` of the in-process transport keeps two parallel vectors (`receiver_ids`, `receivers`); `add` appends to both and
returns the id, `select` removes a closed member from both at the same index.  Where the id comes from is regenerated from the
source (`Gen.inprocSetIdsFromCounter`: a counter that only grows — or, as in seeded change C19-6, the current number of members).
-/
namespace InprocSet
open Gen

structure St where
  ids : List Nat      -- ids of the members, in vector order
  next : Nat          -- the counter
deriving Repr, DecidableEq

inductive Op | add | closeAt (index : Nat)
deriving Repr, DecidableEq

def step (fromCounter : Bool) (st : St) : Op → St
  | .add => if fromCounter then ⟨st.ids ++ [st.next], st.next + 1⟩ else ⟨st.ids ++ [st.ids.length], st.next + 1⟩
  | .closeAt i => ⟨st.ids.eraseIdx i, st.next⟩

def run (fromCounter : Bool) (ops : List Op) : St := ops.foldl (step fromCounter) ⟨[], 0⟩

def Inv (st : St) : Prop := st.ids.Nodup ∧ ∀ i ∈ st.ids, i < st.next

theorem inv_step (st : St) (op : Op) (h : Inv st) : Inv (step true st op) := by
  obtain ⟨hn, hb⟩ := h
  cases op with
  | add => exact ListLookup.nodup_lt_concat hn hb
  | closeAt i => exact ⟨hn.sublist (List.eraseIdx_sublist _ _), fun j hj => hb j ((List.eraseIdx_sublist _ _).subset hj)⟩

/-- **no two members of a set share an id, whatever the history of additions and closures** (for ids taken from the counter) -/
theorem ids_distinct (ops : List Op) : (run true ops).ids.Nodup :=
  (List.foldlRecOn ops _ (motive := Inv) ⟨List.nodup_nil, by simp⟩ fun st h op _ => inv_step st op h).1

/-- the source takes ids from the counter and removes a closed member from both vectors at one index -/
theorem code_shape : inprocSetIdsFromCounter = true ∧ inprocSetParallelRemove = true := by decide

/-- ids taken from the number of members (seeded change C19-6): after a closure a live member's id is handed out again -/
example : (run false [.add, .add, .closeAt 0, .add]).ids = [1, 1] := by decide
example : (run true [.add, .add, .closeAt 0, .add]).ids = [1, 2] := by decide

end InprocSet
