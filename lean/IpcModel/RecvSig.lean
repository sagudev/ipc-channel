import IpcModel.Frag
/-!
# Signals during reassembly

`Frag.recvFollow` is the loop that reads the follow-up fragments of a message from its dedicated socket.  Each `recv()` call of
that loop may be answered `EINTR` instead — the receiving thread handled a signal while it waited; nothing was transferred.
`loop retry` is the same loop over such an answer stream: with `retry` (the repaired code, flag `Gen.shape_followupRetriesEintr`
regenerated from the source) an interrupted call is repeated, without it the error is passed on and the half-received message
is lost (D20).  The second flag `restore` (`Gen.shape_followupRestoresLen`) says whether an interrupted read puts the buffer
length back; a retry without that delivers a damaged message (`corrupt`).
-/
namespace RecvSig
open Gen

inductive Ans (α : Type) | data (p : List α) | eintr
deriving Repr

inductive Res (α : Type) | ok (data : List α) | closed | block | trunc | panic | err | corrupt
deriving Repr, DecidableEq

def embed : Frag.RRes α → Res α
  | .ok d => .ok d | .closed => .closed | .block => .block | .trunc => .trunc | .panic => .panic

def strip : List (Ans α) → List (List α)
  | [] => []
  | .data p :: q => p :: strip q
  | .eintr :: q => strip q

def loop (retry : Bool) (sys total : Nat) (buf : List α) (answers : List (Ans α)) (eof : Bool) (restore : Bool := true) : Res α :=
  match answers, eof with
  | [], eof => if buf.length < total then (if eof then .closed else .block) else .ok buf
  | .eintr :: q, eof =>
    -- `restore`: the buffer length, raised to the end of the window before the read, is put back after an interrupted read;
    -- without it the window counts as received: a hole of bytes nobody wrote, the rest shifted (`corrupt`)
    if buf.length < total then (if retry then (if restore then loop retry sys total buf q eof restore else .corrupt) else .err) else .ok buf
  | .data p :: q, eof =>
    if buf.length < total then
      let want := recvEnd sys buf.length total - buf.length
      if p.length = 0 ∨ want = 0 then .closed
      else if want < p.length then .trunc
      else loop retry sys total (buf ++ p) q eof restore
    else .ok buf

theorem recvFollow_done {sys total : Nat} {buf : List α} {ps : List (List α)} {eof : Bool} (h : ¬ buf.length < total) :
    Frag.recvFollow sys total buf ps eof = .ok buf := by
  cases ps <;> simp only [Frag.recvFollow, if_neg h]

/-- **interruptions are invisible**: with the retry, for any number of `EINTR` answers at any positions, the loop ends exactly as the
uninterrupted reassembly of the same packets does. -/
theorem loop_retry (sys total : Nat) (buf : List α) (answers : List (Ans α)) (eof : Bool) :
    loop true sys total buf answers eof = embed (Frag.recvFollow sys total buf (strip answers) eof) := by
  induction answers generalizing buf with
  | nil =>
    simp only [loop, strip, Frag.recvFollow]
    split
    · split <;> rfl
    · rfl
  | cons a q ih =>
    by_cases h : buf.length < total
    · cases a with
      | eintr => simp only [loop, strip, if_pos h, if_true]; exact ih buf
      | data p =>
        simp only [loop, strip, Frag.recvFollow, if_pos h]
        split
        · rfl
        · split
          · rfl
          · exact ih (buf ++ p)
    · rw [recvFollow_done h]
      cases a <;> simp only [loop, if_neg h] <;> rfl

/-- in particular a complete message comes out complete -/
theorem loop_retry_ok (sys total : Nat) (buf : List α) (answers : List (Ans α)) (eof : Bool) (d : List α)
    (h : Frag.recvFollow sys total buf (strip answers) eof = .ok d) : loop true sys total buf answers eof = .ok d := by
  rw [loop_retry, h]; rfl

/-- a retry that forgets to put the buffer length back (seeded changes C02-5, C12-5, C18-4) delivers a damaged message -/
theorem loop_norestore_corrupt (sys total : Nat) (buf : List α) (q : List (Ans α)) (eof : Bool) (h : buf.length < total) :
    loop true sys total buf (.eintr :: q) eof false = .corrupt := by
  simp [loop, h]

/-- without the retry (the code before the repair): one interruption while bytes are still owed is an error, the message is lost -/
theorem loop_noretry_err (sys total : Nat) (buf : List α) (q : List (Ans α)) (eof : Bool) (h : buf.length < total) :
    loop false sys total buf (.eintr :: q) eof = .err := by
  simp [loop, h]

/-- `loop_retry` for the flags as they are regenerated from the source (both `true`) -/
theorem loop_code (sys total : Nat) (buf : List α) (answers : List (Ans α)) (eof : Bool) :
    loop Gen.shape_followupRetriesEintr sys total buf answers eof Gen.shape_followupRestoresLen
      = embed (Frag.recvFollow sys total buf (strip answers) eof) :=
  loop_retry sys total buf answers eof

end RecvSig
