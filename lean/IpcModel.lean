import IpcModel.Props.C01Value
import IpcModel.Props.C02
import IpcModel.Props.C03
import IpcModel.Props.C04
import IpcModel.Props.C06
import IpcModel.Props.C07
import IpcModel.Props.C08
import IpcModel.Props.C09
import IpcModel.Props.C10
import IpcModel.Props.C11
import IpcModel.Props.C12
import IpcModel.Props.C16Script
import IpcModel.Props.C16Kind
import IpcModel.Props.C17
import IpcModel.Props.C18
import IpcModel.Props.C19
import IpcModel.Props.C20
/-! The library root: the property modules that no other module imports.  Each brings its model, its lemma modules and the
property modules it rests on: `Props/C01` and `C16` come with `C01Value`, `C13`, `C14` and `C15` with `C04`, `C05` with `C18`.
`Driver`, the root of the executable, is built by its own target. -/
